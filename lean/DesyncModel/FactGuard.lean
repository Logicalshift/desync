/- A structural fact read from /repo/src by the translator (Generated.lean), kept in its own module so that only the properties that rely on it depend on it. -/
import DesyncModel.Types
import DesyncModel.Generated

namespace Desync
open Gen

theorem guarded_all_runners (r : Runner) : guarded r = true := by cases r <;> rfl

/-- a runner that panics marks its queue Panicked in every state it can be in while running (Running, AwokenWhileRunning, …) -/
theorem guard_marks_panicked_always : guardMarksPanickedAlways = true := rfl

end Desync
