/-
The steps of the pipe model as rules: `Step s l s'` has one rule per branch of `step`, with the branch's
conditions as premises and the post-state written out as an update of `s`.  `trigger` and `takeNotify` appear
in their branch-free forms (`trigger_eq`, `takeNotify_eq`), so that no rule splits on a slot being empty.
`Step.of_step` and its converse `Step.step_eq` are the only places where the function `step` is taken apart;
the invariants are proved by cases on `Step`, naming the rules that matter to them.
-/
import DesyncModel.Pipe.Model
namespace Desync.Pipe

theorem trigger_eq (s : PState) (w : Option Nat) : trigger s w = { s with pendingWakes := s.pendingWakes ++ w.toList } := by
  cases w <;> simp [trigger]

theorem takeNotify_eq (s : PState) :
    takeNotify s = { s with core := { s.core with notify := false }, consumerWoken := s.consumerWoken || s.core.notify } := by
  unfold takeNotify
  cases h : s.core.notify <;> simp
  rw [← h]

inductive Step (s : PState) : Label → PState → Prop
  | sendGone {v} : s.inClosed = false → s.streamDropped = true → Step s (.send v) s
  | send {v} : s.inClosed = false → s.streamDropped = false →
      Step s (.send v) { s with inq := s.inq ++ [v], sent := s.sent ++ [v], inWaker := none,
                                 pendingWakes := s.pendingWakes ++ s.inWaker.toList }
  | close : s.inClosed = false →
      Step s .close { s with inClosed := true, inWaker := none, pendingWakes := s.pendingWakes ++ s.inWaker.toList }
  | wakeArmed {k} : k ∈ s.pendingWakes → s.wakers[k]? = some true →
      Step s (.wakeK k) { s with pendingWakes := s.pendingWakes.erase k, wakers := s.wakers.set k false, polling := s.polling + 1 }
  | wakeSpent {k} : k ∈ s.pendingWakes → s.wakers[k]? = some false →
      Step s (.wakeK k) { s with pendingWakes := s.pendingWakes.erase k }
  | schedule : s.polling ≠ 0 → Step s .schedule { s with polling := s.polling - 1, scheduled := s.scheduled + 1 }
  | ctxDeadTake : s.polling ≠ 0 → s.pollFn = true →
      Step s .ctxDead { s with polling := s.polling - 1, pollFn := false, chuteFn := true, targetGone := true }
  | ctxDead : s.polling ≠ 0 → s.pollFn = false → Step s .ctxDead { s with polling := s.polling - 1, targetGone := true }
  | beginNoFn : s.job = none → s.scheduled ≠ 0 → s.pollFn = false →
      Step s .jobBegin { s with scheduled := s.scheduled - 1, wakers := s.wakers ++ [true] }
  | beginPipe : s.job = none → s.scheduled ≠ 0 → s.pollFn = true → s.through = true → s.outAlive = true →
      Step s .jobBegin { s with scheduled := s.scheduled - 1, wakers := s.wakers ++ [true],
                                 job := some (.checkFull, s.wakers.length), jobHasCore := true, jobHoldsFn := true }
  | beginPipeGone : s.job = none → s.scheduled ≠ 0 → s.pollFn = true → s.through = true → s.outAlive = false →
      Step s .jobBegin { s with scheduled := s.scheduled - 1, wakers := s.wakers ++ [true], job := some (.clearing, s.wakers.length) }
  | beginPipeIn : s.job = none → s.scheduled ≠ 0 → s.pollFn = true → s.through = false →
      Step s .jobBegin { s with scheduled := s.scheduled - 1, wakers := s.wakers ++ [true],
                                 job := some (.pollInput, s.wakers.length), jobHoldsFn := true }
  | full {k} : s.job = some (.checkFull, k) → s.core.pending.length ≥ s.core.depth →
      Step s .prod { s with core := { s.core with bp := some k }, job := none, jobHasCore := false, jobHoldsFn := false }
  | seeClosed {k} : s.job = some (.checkFull, k) → s.core.pending.length < s.core.depth → s.core.closed = true →
      Step s .prod { s with job := some (.closedNotify, k) }
  | seeOpen {k} : s.job = some (.checkFull, k) → s.core.pending.length < s.core.depth → s.core.closed = false →
      Step s .prod { s with job := some (.clearNsc, k) }
  | closedNotify {k} : s.job = some (.closedNotify, k) →
      Step s .prod { s with core := { s.core with notify := false }, consumerWoken := s.consumerWoken || s.core.notify,
                             job := some (.clearing, k), jobHasCore := false, jobHoldsFn := false }
  | clearNsc {k} : s.job = some (.clearNsc, k) →
      Step s .prod { s with core := { s.core with nsc := none }, job := some (.pollInput, k) }
  | push {v k} : s.job = some (.push v, k) →
      Step s .prod { s with core := { s.core with pending := s.core.pending ++ [f v], notify := false }, pushed := s.pushed ++ [f v],
                             consumerWoken := s.consumerWoken || s.core.notify, job := some (.clearNsc, k) }
  | regClosed {k} : s.job = some (.regNsc, k) → s.core.closed = true →
      Step s .prod { s with job := some (.clearing, k), jobHasCore := false, jobHoldsFn := false }
  | regNsc {k} : s.job = some (.regNsc, k) → s.core.closed = false →
      Step s .prod { s with core := { s.core with nsc := some k }, job := none, jobHasCore := false, jobHoldsFn := false }
  | closeOut {k} : s.job = some (.closeOut, k) →
      Step s .prod { s with core := { s.core with closed := true, notify := false }, consumerWoken := s.consumerWoken || s.core.notify,
                             job := some (.clearing, k), jobHasCore := false, jobHoldsFn := false }
  | inPending {k} : s.job = some (.pollInput, k) → s.inq = [] → s.inClosed = false → s.through = true →
      Step s .inPending { s with inWaker := some k, job := some (.regNsc, k) }
  | inPendingIn {k} : s.job = some (.pollInput, k) → s.inq = [] → s.inClosed = false → s.through = false →
      Step s .inPending { s with inWaker := some k, job := none, jobHasCore := false, jobHoldsFn := false }
  | inEnd {k} : s.job = some (.pollInput, k) → s.inq = [] → s.inClosed = true → s.through = true →
      Step s .inEnd { s with job := some (.closeOut, k) }
  | inEndIn {k} : s.job = some (.pollInput, k) → s.inq = [] → s.inClosed = true → s.through = false →
      Step s .inEnd { s with job := some (.clearing, k), jobHasCore := false, jobHoldsFn := false }
  | yield {v k rest} : s.job = some (.pollInput, k) → s.inq = v :: rest →
      Step s (.yield v) { s with inq := rest, yielded := s.yielded ++ [v], job := some (.process v, k) }
  | item {v k} : s.job = some (.process v, k) → s.through = true →
      Step s (.item v) { s with processed := s.processed ++ [v], job := some (.push v, k) }
  | itemIn {v k} : s.job = some (.process v, k) → s.through = false →
      Step s (.item v) { s with processed := s.processed ++ [v], job := some (.pollInput, k) }
  | clearFn {k} : s.job = some (.clearing, k) → Step s .clearFn { s with pollFn := false, job := none }
  | chuteRun : s.chuteFn = true → Step s .chuteRun { s with chuteFn := false }
  | ctxFree : s.pollFn = true → ctxRefs s = false → Step s .ctxFree { s with pollFn := false, ctxFreed := true }
  | streamDrop : s.streamDropped = false → s.pollFn = false → s.jobHoldsFn = false → s.chuteFn = false →
      Step s .streamDrop { s with streamDropped := true }
  | fnDrop : s.fnDropped = false → s.pollFn = false → s.jobHoldsFn = false → s.chuteFn = false →
      Step s .fnDrop { s with fnDropped := true }
  | consItem {v rest} : s.outAlive = true → s.dropping = false → s.core.pending = v :: rest →
      Step s .cons { s with core := { s.core with pending := rest, bp := none }, delivered := s.delivered ++ [v],
                             consumerWaiting := false, consumerWoken := false, pendingWakes := s.pendingWakes ++ s.core.bp.toList }
  | consEnd : s.outAlive = true → s.dropping = false → s.core.pending = [] → s.core.closed = true →
      Step s .cons { s with ended := true, consumerWaiting := false, consumerWoken := false }
  | consWait : s.outAlive = true → s.dropping = false → s.core.pending = [] → s.core.closed = false →
      Step s .cons { s with core := { s.core with notify := true, bp := none }, consumerWaiting := true, consumerWoken := false,
                             pendingWakes := s.pendingWakes ++ s.core.bp.toList }
  | taskWake : s.consumerWoken = true → Step s .taskWake s
  | dropLock : s.outAlive = true → s.dropping = false →
      Step s .dropLock { s with core := { s.core with pending := [], closed := true, nsc := none }, dropping := true, onDropQueued := true,
                                 pendingWakes := s.pendingWakes ++ s.core.nsc.toList }
  | dropDone : s.dropping = true → Step s .dropDone { s with dropping := false, outAlive := false }
  | dispose : s.onDropQueued = true → Step s .dispose { s with onDropQueued := false, strongHeld := false }
  | setDepth {n} : s.outAlive = true → s.dropping = false → Step s (.setDepth n) { s with core := { s.core with depth := n } }

theorem Step.of_step {s s' : PState} {l : Label} (hs : step s l = some s') : Step s l s' := by
  revert hs
  fun_cases step s l
  all_goals intro hs
  all_goals simp only [fin, takeNotify_eq, trigger_eq, ↓reduceIte, Bool.false_eq_true, Option.some.injEq, reduceCtorEq] at hs
  all_goals subst hs
  -- `item` chooses the next pc inside the post-state
  all_goals repeat' split
  -- each goal is `Step s l X` with `X` the post-state of one branch of `step`: `constructor` finds the rule with that label and
  -- post-state (where a label has several, a wrong one leaves a premise that contradicts the branch's conditions, and fails)
  all_goals constructor <;> first | assumption | simp_all

theorem Step.step_eq {s s' : PState} {l : Label} (h : Step s l s') : step s l = some s' := by
  cases h <;> simp [step, fin, takeNotify_eq, trigger_eq, *]

theorem Stuck.elim {s s' : PState} {l : Label} {P : Prop} (h : Stuck s) (hl : internal l = true) (hp : Step s l s') : P :=
  nomatch (h l hl).symm.trans hp.step_eq

end Desync.Pipe
