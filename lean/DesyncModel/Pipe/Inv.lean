/-
The invariants of the pipe model, each with its initial case and its step case over `Step`.  A step case goes clause by clause
(or rule by rule): the rules that change what a clause reads are named, the others keep the clause as it stands.

"As it stands" is `exact { h with }` (or `exact h.clause`): a rule's post-state is `{ s with … }`, and a clause that reads `s`
only through fields the rule does not write — directly, or through `armed`, `slotArmed`, `coreLive`, `cur`, `curOut`, which unfold
to projections — is at the post-state definitionally the clause at `s`.  (`ctxRefs` does not reduce this way: a clause that
mentions it has to name nearly every rule.)  In `case r x₁ … xₙ =>` the names go to the last n of the rule's arguments and premises.
-/
import DesyncModel.Pipe.StepRel

namespace Desync.Pipe

/-! History invariants: what has been yielded, processed, pushed and delivered, in which order. -/

/-- the item the processing closure is working on -/
def cur (s : PState) : List Nat := match s.job with | some (.process v, _) => [v] | _ => []
/-- the output computed and not yet pushed -/
def curOut (s : PState) : List Nat := match s.job with | some (.push v, _) => [f v] | _ => []

structure HistInv (s : PState) : Prop where
  proc : s.processed ++ cur s = s.yielded
  yld : s.yielded ++ s.inq = s.sent
  push : s.through = true → s.pushed ++ curOut s = s.processed.map f
  deliv : s.outAlive = true → s.dropping = false → s.delivered ++ s.core.pending = s.pushed

theorem histInv_init (t : Bool) (d : Nat) : HistInv (initP t d) := by
  constructor <;> simp [initP, cur, curOut]

theorem histInv_step {s s' : PState} {l : Label} (h : HistInv s) (hs : Step s l s') : HistInv s' := by
  cases hs
  case send => exact { h with yld := by rw [← List.append_assoc, h.yld] }
  case consItem hp => exact { h with deliv := fun ho hd => by simpa [hp] using h.deliv ho hd }
  case dropLock => exact { h with deliv := fun _ => nofun }
  case dropDone => exact { h with deliv := nofun }
  -- an item moves from one history to the next, by way of the job
  case itemIn hj ht => exact { h with proc := by simpa [cur, hj] using h.proc, push := fun ht' => nomatch ht'.symm.trans ht }
  case yield | item | push =>
    exact { proc := by simpa [cur, *] using h.proc, yld := by simpa [*] using h.yld, push := by simpa [curOut, *] using h.push,
            deliv := fun ho hd => by simp [← List.append_assoc, h.deliv ho hd] }
  -- the other rules leave the histories alone and move `job`, if at all, between pcs that hold no item
  all_goals first | exact { h with } | exact { h with proc := by simpa only [cur, *] using h.proc, push := by simpa only [curOut, *] using h.push }

/-! Every PipeWaker id held anywhere is a waker that exists. -/

structure IdxInv (s : PState) : Prop where
  wakesLt : ∀ k ∈ s.pendingWakes, k < s.wakers.length
  jobLt : ∀ pc k, s.job = some (pc, k) → k < s.wakers.length
  inLt : ∀ k, s.inWaker = some k → k < s.wakers.length
  nscLt : ∀ k, s.core.nsc = some k → k < s.wakers.length
  bpLt : ∀ k, s.core.bp = some k → k < s.wakers.length

theorem idxInv_init (t : Bool) (d : Nat) : IdxInv (initP t d) := by
  constructor <;> simp [initP]

theorem idxInv_step {s s' : PState} {l : Label} (h : IdxInv s) (hs : Step s l s') : IdxInv s' := by
  -- the waker list never shrinks, so an id in range stays in range; an id that a rule puts somewhere is the next one,
  -- the job's, or that of a slot whose waker is woken
  have lt {k} (hk : k < s.wakers.length) : k < s'.wakers.length := Nat.lt_of_lt_of_le hk (by cases hs <;> simp)
  have wake {w : Option Nat} (hw : ∀ k, w = some k → k < s.wakers.length) : ∀ k ∈ s.pendingWakes ++ w.toList, k < s.wakers.length :=
    fun k hk => (List.mem_append.mp hk).elim (h.wakesLt k) fun hk => hw k (Option.mem_toList.mp hk)
  constructor
  case wakesLt =>
    cases hs
    case send | close => exact wake h.inLt
    case consItem | consWait => exact wake h.bpLt
    case dropLock => exact wake h.nscLt
    case wakeArmed | wakeSpent => exact fun k hk => lt (h.wakesLt k (List.mem_of_mem_erase hk))
    all_goals exact fun k hk => lt (h.wakesLt k hk)
  case jobLt =>
    cases hs
    case beginPipe | beginPipeGone | beginPipeIn => rintro _ _ ⟨⟩; exact List.length_append ▸ Nat.lt_succ_self _
    -- the other rules leave the job alone, or move it on with its id
    all_goals first | exact fun pc k e => lt (h.jobLt pc k e) | (rintro _ _ ⟨⟩ <;> exact h.jobLt _ _ ‹_›)
  case inLt =>
    cases hs
    case send | close => exact nofun
    case inPending | inPendingIn => rintro _ ⟨⟩; exact h.jobLt _ _ ‹_›
    all_goals exact fun k e => lt (h.inLt k e)
  case nscLt =>
    cases hs
    case clearNsc | dropLock => exact nofun
    case regNsc => rintro _ ⟨⟩; exact h.jobLt _ _ ‹_›
    all_goals exact fun k e => lt (h.nscLt k e)
  case bpLt =>
    cases hs
    case consItem | consWait => exact nofun
    case full => rintro _ ⟨⟩; exact h.jobLt _ _ ‹_›
    all_goals exact fun k e => lt (h.bpLt k e)

/-! Relations between the flags of the model: who owns the stream core, the poll function, the target reference. -/

/-- the running poll operation's future is alive (the poll function has not returned yet) -/
def jobActive (s : PState) : Bool :=
  match s.job with
  | some (.clearing, _) => false
  | some _ => true
  | none => false

/-- the pcs of a `pipe_in` poll operation -/
def inPc : PJ → Bool
  | .pollInput | .process _ | .clearing => true
  | _ => false

structure FlagInv (s : PState) : Prop where
  inPcs : s.through = false → ∀ pc k, s.job = some (pc, k) → inPc pc = true
  hasCore : s.jobHasCore = true → s.jobHoldsFn = true
  holdsFn : s.jobHoldsFn = jobActive s
  dropOut : s.dropping = true → s.outAlive = true
  closedDrop : s.through = true → (s.outAlive = false ∨ s.dropping = true) → s.core.closed = true
  pipeIn : s.through = false → s.outAlive = false ∧ s.dropping = false ∧ s.jobHasCore = false ∧ s.strongHeld = false
  strong : (s.outAlive = false ∨ s.dropping = true) → s.onDropQueued = true ∨ s.strongHeld = false
  dropped : (s.streamDropped = true ∨ s.fnDropped = true) → s.pollFn = false ∧ s.jobHoldsFn = false ∧ s.chuteFn = false
  chute : s.chuteFn = true → s.pollFn = false
  freed : s.ctxFreed = true → s.pollFn = false
  gone : s.targetGone = true → s.pollFn = false

theorem flagInv_init (t : Bool) (d : Nat) : FlagInv (initP t d) := by
  constructor <;> simp [initP, jobActive]

theorem flagInv_step {s s' : PState} {l : Label} (h : FlagInv s) (hs : Step s l s') : FlagInv s' := by
  cases hs
  -- the output stream is dropped
  case dropLock ho _ =>
    exact { h with dropOut := fun _ => ho, closedDrop := fun _ _ => rfl, strong := fun _ => .inl rfl,
                   pipeIn := fun ht => nomatch ho.symm.trans (h.pipeIn ht).1 }
  case dropDone hd =>
    exact { h with dropOut := nofun, closedDrop := fun ht _ => h.closedDrop ht (.inr hd), strong := fun _ => h.strong (.inr hd),
                   pipeIn := fun ht => nomatch hd.symm.trans (h.pipeIn ht).2.1 }
  case dispose => exact { h with strong := fun _ => .inr rfl, pipeIn := fun ht => ⟨(h.pipeIn ht).1, (h.pipeIn ht).2.1, (h.pipeIn ht).2.2.1, rfl⟩ }
  -- the poll function goes; no rule brings it back
  case ctxDeadTake _ hf | ctxFree hf _ =>
    exact { h with chute := fun _ => rfl, freed := fun _ => rfl, gone := fun _ => rfl, dropped := fun hx => nomatch hf.symm.trans (h.dropped hx).1 }
  case clearFn hj =>
    exact { h with chute := fun _ => rfl, freed := fun _ => rfl, gone := fun _ => rfl, dropped := fun hx => ⟨rfl, (h.dropped hx).2⟩,
                   inPcs := fun _ => nofun, holdsFn := (by simpa only [jobActive, hj] using h.holdsFn) }
  case ctxDead _ hf => exact { h with gone := fun _ => hf }
  case chuteRun => exact { h with chute := nofun, dropped := fun hx => ⟨(h.dropped hx).1, (h.dropped hx).2.1, rfl⟩ }
  case streamDrop _ a b c | fnDrop _ a b c => exact { h with dropped := fun _ => ⟨a, b, c⟩ }
  -- a poll operation starts: the poll function is there, so nothing has been dropped
  case beginPipe _ hf ht' _ =>
    exact { h with inPcs := fun ht => (nomatch ht.symm.trans ht'), hasCore := fun _ => rfl, holdsFn := rfl,
                   pipeIn := fun ht => (nomatch ht.symm.trans ht'), dropped := fun hx => nomatch hf.symm.trans (h.dropped hx).1 }
  case beginPipeGone hn _ _ _ _ => exact { h with inPcs := (by rintro _ _ _ ⟨⟩; rfl), holdsFn := (by simpa only [jobActive, hn] using h.holdsFn) }
  case beginPipeIn _ hf _ =>
    exact { h with inPcs := (by rintro _ _ _ ⟨⟩; rfl), hasCore := fun _ => rfl, holdsFn := rfl,
                   dropped := fun hx => nomatch hf.symm.trans (h.dropped hx).1 }
  -- it returns, giving up the core and the function (`closeOut` also closes the core)
  case full | closedNotify | regClosed | regNsc | closeOut | inPendingIn | inEndIn =>
    exact { h with inPcs := (by rintro _ _ _ ⟨⟩ <;> rfl), hasCore := nofun, holdsFn := rfl,
                   closedDrop := (by first | exact h.closedDrop | exact fun _ _ => rfl),
                   pipeIn := fun ht => ⟨(h.pipeIn ht).1, (h.pipeIn ht).2.1, rfl, (h.pipeIn ht).2.2.2⟩, dropped := fun hx => ⟨(h.dropped hx).1, rfl, (h.dropped hx).2.2⟩ }
  -- it moves on: to a pc of `pipe_in`, or by a rule of `pipe`, or from a pc that is not one of `pipe_in`
  case seeClosed | seeOpen | clearNsc | push | inPending | inEnd | yield | item | itemIn =>
    exact { h with holdsFn := (by simpa only [jobActive, *] using h.holdsFn),
                   inPcs := (by rintro ht _ _ ⟨⟩; first | rfl | exact nomatch ht.symm.trans ‹s.through = true› | cases h.inPcs ht _ _ ‹_›) }
  all_goals exact { h with }

/-! No lost consumer wake-up: the consumer's waker never sits in the core while there is something to read. -/

structure ConsInv (s : PState) : Prop where
  notifyOk : s.outAlive = true → s.dropping = false → s.core.notify = true → s.core.pending = [] ∧ s.core.closed = false
  waiting : s.consumerWaiting = true → s.core.notify = true ∨ s.consumerWoken = true

theorem consInv_init (t : Bool) (d : Nat) : ConsInv (initP t d) := by
  constructor <;> simp [initP]

theorem consInv_step {s s' : PState} {l : Label} (h : ConsInv s) (hs : Step s l s') : ConsInv s' := by
  cases hs
  -- the producer takes the consumer's waker out of the core and wakes it
  case closedNotify | push | closeOut =>
    exact { notifyOk := fun _ _ => nofun, waiting := fun hw => .inr (by simpa [or_comm] using h.waiting hw) }
  -- the consumer leaves its waker only when there is nothing to read
  case consItem hp => exact { waiting := nofun, notifyOk := fun ho hd hn => nomatch hp.symm.trans (h.notifyOk ho hd hn).1 }
  case consEnd => exact { h with waiting := nofun }
  case consWait hp hc => exact { notifyOk := fun _ _ _ => ⟨hp, hc⟩, waiting := fun _ => .inl rfl }
  case dropLock => exact { h with notifyOk := fun _ => nofun }
  case dropDone => exact { h with notifyOk := nofun }
  all_goals exact { h with }

/-! Where the producer's wakers are registered.  `reg` is the invariant behind C16: while no poll operation is
running (or one has only just started), an armed waker that the input holds is also the one in
`notify_stream_closed` of a core that is not closed — so dropping the output stream, which takes that slot and
wakes it, reaches the producer — or its wake is already on its way. -/

/-- the poll operation has not handed its waker to anyone yet -/
def preReg : PJ → Bool
  | .regNsc | .clearing => false
  | _ => true

/-- the pcs at which the registration made by an earlier poll operation still stands -/
def keepsReg : PJ → Bool
  | .checkFull | .closedNotify => true
  | _ => false

structure RegInv (s : PState) : Prop where
  fresh : ∀ pc k, s.job = some (pc, k) → preReg pc = true →
    armed s k = true ∧ k ∉ s.pendingWakes ∧ s.inWaker ≠ some k ∧ s.core.nsc ≠ some k ∧ s.core.bp ≠ some k
  regIn : ∀ k, s.job = some (.regNsc, k) → s.inWaker = some k ∨ s.inWaker = none
  reg : s.through = true → s.pollFn = true → (s.job = none ∨ ∃ pc k', s.job = some (pc, k') ∧ keepsReg pc = true) →
    ∀ k, s.inWaker = some k → armed s k = true → (s.core.nsc = some k ∧ s.core.closed = false) ∨ k ∈ s.pendingWakes

theorem regInv_init (t : Bool) (d : Nat) : RegInv (initP t d) := by
  constructor <;> simp [initP]

theorem armed_set {l : List Bool} {k0 k : Nat} : ((l.set k0 false)[k]? == some true) = ((l[k]? == some true) && k != k0) := by
  grind

theorem regInv_step {s s' : PState} {l : Label} (hi : IdxInv s) (h : RegInv s) (hs : Step s l s') : RegInv s' := by
  constructor
  case regIn =>
    cases hs
    case inPending => rintro _ ⟨⟩; exact .inl rfl
    case send | close => exact fun _ _ => .inr rfl
    -- the other rules change nothing the clause reads, or leave the job elsewhere
    all_goals first | exact h.regIn | rintro _ ⟨⟩
  case fresh =>
    have hf := h.fresh
    cases hs
    case beginNoFn hn _ _ => exact fun _ _ hj => nomatch hn.symm.trans hj
    -- the new waker is armed, and nobody holds its id yet
    case beginPipe | beginPipeGone | beginPipeIn =>
      rintro _ _ ⟨⟩ _
      exact ⟨by simp [armed], fun hm => Nat.lt_irrefl _ (hi.wakesLt _ hm), fun e => Nat.lt_irrefl _ (hi.inLt _ e),
        fun e => Nat.lt_irrefl _ (hi.nscLt _ e), fun e => Nat.lt_irrefl _ (hi.bpLt _ e)⟩
    -- a wake in progress is not that of the running operation's waker
    case wakeArmed k0 hm _ | wakeSpent k0 hm _ =>
      intro pc k hj hp
      have ⟨a, b, c, d, e⟩ := hf pc k hj hp
      have hne : k ≠ k0 := fun e => b (e ▸ hm)
      exact ⟨by simpa [armed, armed_set, hne] using a, fun hm' => b (List.mem_of_mem_erase hm'), c, d, e⟩
    -- nor is the waker taken out of a slot
    case send | close | consItem | consWait | dropLock =>
      intro pc k hj hp
      have ⟨a, b, c, d, e⟩ := hf pc k hj hp
      exact ⟨a, by simp [*], by simp [*], by simp [*], by simp [*]⟩
    case clearNsc hj => rintro _ _ ⟨⟩ _; have ⟨a, b, c, _, e⟩ := hf _ _ hj rfl; exact ⟨a, b, c, nofun, e⟩
    case seeClosed | seeOpen | push | inEnd | yield | item | itemIn => rintro _ _ ⟨⟩ _; exact hf _ _ ‹_› rfl
    -- the operation has handed its waker on, or has returned
    case full | regNsc | inPendingIn | clearFn | closedNotify | regClosed | closeOut | inEndIn | inPending => rintro _ _ ⟨⟩ ⟨⟩
    all_goals exact hf
  case reg =>
    have hr := h.reg
    cases hs
    -- the registration made by an earlier poll operation still stands
    case full hj _ | seeClosed hj _ _ => exact fun ht hp _ => hr ht hp (.inr ⟨_, _, hj, rfl⟩)
    case beginPipe hn _ _ _ _ =>
      intro ht hp _ k hw ha
      simp only [armed, List.getElem?_append_left (hi.inLt k hw)] at ha
      exact hr ht hp (.inl hn) k hw ha
    -- a new one: the waker the input was polled with goes into `notify_stream_closed` of an open core
    case regNsc hj hc =>
      intro _ _ _ k' hw _
      rcases h.regIn _ hj with e | e <;> rw [e] at hw
      · exact .inl ⟨hw, hc⟩
      · cases hw
    -- dropping the output stream wakes what is in `notify_stream_closed`
    case dropLock => exact fun ht hp hj k hw ha => .inr ((hr ht hp hj k hw ha).elim (fun e => by simp [e.1]) (List.mem_append_left _))
    case consItem | consWait => exact fun ht hp hj k hw ha => (hr ht hp hj k hw ha).imp id (List.mem_append_left _)
    -- a wake that completes is that of a waker no longer armed
    case wakeArmed k0 _ _ =>
      intro ht hp hj k hw ha
      simp only [armed, armed_set, Bool.and_eq_true, bne_iff_ne] at ha
      exact (hr ht hp hj k hw ha.1).imp id (List.mem_erase_of_ne ha.2).mpr
    case wakeSpent k0 _ h0 =>
      intro ht hp hj k hw ha
      have hne : k ≠ k0 := by rintro rfl; simp [armed, h0] at ha
      exact (hr ht hp hj k hw ha).imp id (List.mem_erase_of_ne hne).mpr
    -- nothing is claimed: the input holds no waker, the poll function is gone, `pipe_in`
    case send | close => exact fun _ _ _ _ => nofun
    case ctxDeadTake | clearFn | ctxFree => exact fun _ => nofun
    case beginNoFn _ _ hp' => exact fun _ hp => nomatch hp.symm.trans hp'
    case beginPipeIn _ _ _ ht' | inPendingIn _ _ _ ht' => exact fun ht => nomatch ht.symm.trans ht'
    -- the other rules leave all this alone, or take the poll operation past `checkFull`/`closedNotify`
    all_goals first | exact hr | rintro _ _ (⟨⟨⟩⟩ | ⟨_, _, ⟨⟩, ⟨⟩⟩)

/-! No lost producer wake-up: while the poll function is installed and the pipe is neither running nor closed,
something will run the producer again. -/

/-- Something will run the producer again: a scheduled or starting poll, a wake in progress, the consumer's next
read (back-pressure release), or the input's next event. -/
def WakeSource (s : PState) : Prop :=
  s.scheduled > 0 ∨ s.polling > 0 ∨ (∃ k, k ∈ s.pendingWakes ∧ armed s k = true)
  ∨ (s.through = true ∧ s.outAlive = true ∧ slotArmed s s.core.bp = true)
  ∨ (slotArmed s s.inWaker = true ∧ s.inq = [] ∧ s.inClosed = false)

structure WakeInv (s : PState) : Prop where
  wake : s.pollFn = true → (s.job = none ∨ ∃ k, s.job = some (.regNsc, k)) → (s.through = true → s.core.closed = false) → WakeSource s

theorem wakeInv_init (t : Bool) (d : Nat) : WakeInv (initP t d) := by
  constructor; simp [initP, WakeSource]

/-- a slot's waker is woken: it moves to the wakes in progress, which is where it counts from then on -/
theorem mem_wake_of_slotArmed {s : PState} {w : Option Nat} (h : slotArmed s w = true) : ∃ k, k ∈ s.pendingWakes ++ w.toList ∧ armed s k = true := by
  cases w with
  | none => cases h
  | some k => exact ⟨k, by simp, h⟩

theorem wakeInv_step {s s' : PState} {l : Label} (hf : FlagInv s) (hr : RegInv s) (h : WakeInv s) (hs : Step s l s') : WakeInv s' := by
  constructor
  have hw := h.wake
  cases hs
  -- a poll operation returns, leaving its waker where it will be woken
  case full hj _ =>
    intro _ _ hc
    have ht : s.through = true := (Bool.eq_false_or_eq_true _).resolve_right fun ht => nomatch hf.inPcs ht _ _ hj
    have ho : s.outAlive = true :=
      (Bool.eq_false_or_eq_true _).resolve_right fun ho => nomatch (hf.closedDrop ht (.inl ho)).symm.trans (hc ht)
    exact .inr (.inr (.inr (.inl ⟨ht, ho, (hr.fresh _ _ hj rfl).1⟩)))
  case inPending hj hq hc _ | inPendingIn hj hq hc _ => exact fun _ _ _ => .inr (.inr (.inr (.inr ⟨(hr.fresh _ _ hj rfl).1, hq, hc⟩)))
  case regNsc hj hcl => exact fun hp _ _ => hw hp (.inr ⟨_, hj⟩) (fun _ => hcl)
  -- a wake source is used up: the next one takes its place
  case schedule => exact fun _ _ _ => .inl (Nat.succ_pos _)
  case wakeArmed => exact fun _ _ _ => .inr (.inl (Nat.succ_pos _))
  case wakeSpent k _ h0 =>
    refine fun hp hj hc => (hw hp hj hc).imp_right (.imp_right (.imp_left fun ⟨k', hk, ha⟩ => ⟨k', ?_, ha⟩))
    exact (List.mem_erase_of_ne (by rintro rfl; simp [armed, h0] at ha)).mpr hk
  case send | close =>
    intro hp hj hc
    rcases hw hp hj hc with a | a | ⟨k, hk, ha⟩ | a | a
    · exact .inl a
    · exact .inr (.inl a)
    · exact .inr (.inr (.inl ⟨k, List.mem_append_left _ hk, ha⟩))
    · exact .inr (.inr (.inr (.inl a)))
    · exact .inr (.inr (.inl (mem_wake_of_slotArmed a.1)))
  case consItem | consWait =>
    intro hp hj hc
    rcases hw hp hj hc with a | a | ⟨k, hk, ha⟩ | a | a
    · exact .inl a
    · exact .inr (.inl a)
    · exact .inr (.inr (.inl ⟨k, List.mem_append_left _ hk, ha⟩))
    · exact .inr (.inr (.inl (mem_wake_of_slotArmed a.2.2)))
    · exact .inr (.inr (.inr (.inr a)))
  -- the output stream goes: its core is closed, so nothing is claimed for `pipe`, and `pipe_in` has no output stream
  case dropLock ho _ =>
    intro _ _ hc
    rcases Bool.eq_false_or_eq_true s.through with ht | ht
    · cases hc ht
    · cases ho.symm.trans (hf.pipeIn ht).1
  case dropDone hd =>
    refine fun hp hj hc => (hw hp hj hc).imp_right (.imp_right (.imp_right (.imp_left fun a => ?_)))
    cases (hf.closedDrop a.1 (.inr hd)).symm.trans (hc a.1)
  -- nothing is claimed: the poll function is gone
  case ctxDeadTake | clearFn | ctxFree => exact nofun
  case ctxDead _ hp' | beginNoFn _ _ hp' => exact fun hp => nomatch hp.symm.trans hp'
  -- the other rules leave the wake sources alone, or a poll operation is under way after them
  all_goals first | exact hw | rintro _ (⟨⟨⟩⟩ | ⟨_, ⟨⟩⟩)

theorem ctxRefs_of_wakeSource {s : PState} (h : WakeSource s) : ctxRefs s = true := by
  unfold WakeSource at h
  unfold ctxRefs coreLive
  rcases h with h | h | ⟨k, hk, ha⟩ | ⟨_, ho, hb⟩ | ⟨hi, _, _⟩
  · simp [h]
  · simp [h]
  · have : s.pendingWakes.any (armed s) = true := List.any_eq_true.mpr ⟨k, hk, ha⟩
    simp [this]
  · simp [ho, hb]
  · simp [hi]

theorem job_none_of_not_ctxRefs {s : PState} (h : ctxRefs s = false) : s.job = none := by
  unfold ctxRefs at h
  cases hj : s.job <;> simp_all

/-- the context loses its last owner only when nothing would run the producer again: a `pipe` whose output is closed -/
theorem WakeInv.closed_of_free {s : PState} (hw : WakeInv s) (hp : s.pollFn = true) (hc : ctxRefs s = false) :
    s.through = true ∧ s.core.closed = true := by
  by_cases hn : s.through = true → s.core.closed = false
  · exact nomatch ctxRefs_of_wakeSource (hw.wake hp (.inl (job_none_of_not_ctxRefs hc)) hn) ▸ hc
  · simpa using hn

/-! The output stream is closed (while it is alive) only after the input has ended and every item has been pushed. -/

structure EndInv (s : PState) : Prop where
  closeOutPc : ∀ k, s.job = some (.closeOut, k) → s.inClosed = true ∧ s.inq = []
  closedEnd : s.core.closed = true → s.outAlive = true → s.dropping = false →
    s.inClosed = true ∧ s.inq = [] ∧ s.pushed = s.sent.map f ∧ ((∃ k, s.job = some (.clearing, k)) ∨ (s.job = none ∧ s.pollFn = false))

theorem endInv_init (t : Bool) (d : Nat) : EndInv (initP t d) := by
  constructor <;> simp [initP]

theorem endInv_step {s s' : PState} {l : Label} (hh : HistInv s) (hf : FlagInv s) (h : EndInv s) (hs : Step s l s') : EndInv s' := by
  constructor
  case closeOutPc =>
    cases hs
    case inEnd _ hq hc _ => exact fun _ _ => ⟨hc, hq⟩
    case send hc _ | close hc => exact fun k hj => nomatch hc.symm.trans (h.closeOutPc k hj).1
    all_goals first | exact h.closeOutPc | rintro _ ⟨⟩
  case closedEnd =>
    have out {pc k} (hj : s.job = some (pc, k)) (a : s.core.closed = true) (b : s.outAlive = true) (c : s.dropping = false) :
        pc = .clearing := by
      rcases (h.closedEnd a b c).2.2.2 with ⟨_, e⟩ | ⟨e, _⟩ <;> cases hj.symm.trans e
      rfl
    cases hs
    -- the producer closes the output: the input has ended, so what was pushed is all that was sent
    case closeOut hj =>
      intro _ ho _
      have ⟨hic, hq⟩ := h.closeOutPc _ hj
      have ht : s.through = true := (Bool.eq_false_or_eq_true _).resolve_right fun ht => nomatch ho.symm.trans (hf.pipeIn ht).1
      have hp := hh.proc
      have hy := hh.yld
      have hu := hh.push ht
      simp only [cur, curOut, hj, hq, List.append_nil] at hp hy hu
      exact ⟨hic, hq, by rw [hu, hp, hy], .inl ⟨_, rfl⟩⟩
    -- afterwards the input stays ended, no poll operation starts, the poll function stays gone
    case send hc _ | close hc => exact fun a b c => nomatch hc.symm.trans (h.closedEnd a b c).1
    case dropLock => exact fun _ _ => nofun
    case dropDone => exact fun _ => nofun
    case beginPipe hn _ hp _ _ | beginPipeGone hn _ hp _ _ | beginPipeIn hn _ hp _ =>
      exact fun a b c => (h.closedEnd a b c).2.2.2.elim (fun ⟨_, e⟩ => nomatch hn.symm.trans e) (fun e => nomatch hp.symm.trans e.2)
    case ctxDeadTake | ctxFree => exact fun a b c => have ⟨x, y, z, w⟩ := h.closedEnd a b c; ⟨x, y, z, w.imp_right (.imp_right fun _ => rfl)⟩
    case clearFn => exact fun a b c => have ⟨x, y, z, _⟩ := h.closedEnd a b c; ⟨x, y, z, .inr ⟨rfl, rfl⟩⟩
    -- and the poll operation, if there is one, is at `clearing`, where no other rule applies
    all_goals first | exact h.closedEnd | (intro a b c; cases out ‹_› a b c)

/-! The poll function goes away only because the target Desync is gone, or, for `pipe_in`, after the input has ended and
every item has been processed; for `pipe` with its output stream alive, after the stream's core has been closed. -/

structure InInv (s : PState) : Prop where
  done : s.through = false → s.targetGone = false → (s.pollFn = false ∨ ∃ k, s.job = some (.clearing, k)) →
    s.inClosed = true ∧ s.inq = [] ∧ s.processed = s.sent
  closedPc : ∀ k, s.job = some (.closedNotify, k) → s.core.closed = true
  doneOut : s.through = true → s.targetGone = false → s.outAlive = true → (s.pollFn = false ∨ ∃ k, s.job = some (.clearing, k)) →
    s.core.closed = true

theorem inInv_init (t : Bool) (d : Nat) : InInv (initP t d) := by
  constructor <;> simp [initP]

theorem inInv_step {s s' : PState} {l : Label} (hh : HistInv s) (hf : FlagInv s) (hw : WakeInv s) (h : InInv s) (hs : Step s l s') : InInv s' := by
  constructor
  case closedPc =>
    cases hs
    case seeClosed _ _ hc => exact fun _ _ => hc
    case dropLock => exact fun _ _ => rfl
    all_goals first | exact h.closedPc | rintro _ ⟨⟩
  case done =>
    cases hs
    case ctxFree hp hc => exact fun ht => nomatch ht.symm.trans (hw.closed_of_free hp hc).1
    -- the input has ended with nothing left in it: what was processed is what was yielded is what was sent
    case inEndIn hj hq hic _ =>
      intro _ _ _
      have hp := hh.proc
      have hy := hh.yld
      simp only [cur, hj, hq, List.append_nil] at hp hy
      exact ⟨hic, hq, hp.trans hy⟩
    -- an item is being processed, so not everything sent has been processed yet
    case itemIn hj _ =>
      rintro ht hg (hq' | ⟨_, ⟨⟩⟩)
      have ⟨_, hi, hps⟩ := h.done ht hg (.inl hq')
      have hp := hh.proc
      have hy := hh.yld
      rw [hi, List.append_nil] at hy
      rw [hy, ← hps] at hp
      simp [cur, hj] at hp
    case ctxDeadTake | ctxDead => exact fun _ => nofun
    -- the input is still open, or not empty
    case send hc _ | close hc => exact fun ht hg hq => nomatch hc.symm.trans (h.done ht hg hq).1
    case yield _ hq => rintro ht hg (hq' | ⟨_, ⟨⟩⟩); cases hq.symm.trans (h.done ht hg (.inl hq')).2.1
    -- rules of `pipe`
    case beginPipe _ ht' _ | beginPipeGone _ ht' _ | item _ ht' => exact fun ht => nomatch ht.symm.trans ht'
    case closedNotify hj | regClosed hj _ | closeOut hj => exact fun ht => nomatch hf.inPcs ht _ _ hj
    case clearFn hj => exact fun ht hg _ => h.done ht hg (.inr ⟨_, hj⟩)
    -- the other rules that move the job do not go to `clearing`
    all_goals first | exact h.done | (rintro ht hg (hq | ⟨_, ⟨⟩⟩); exact h.done ht hg (.inl hq))
  case doneOut =>
    cases hs
    case ctxFree hp hc => exact fun _ _ _ _ => (hw.closed_of_free hp hc).2
    case ctxDeadTake | ctxDead => exact fun _ => nofun
    case dropDone => exact fun _ _ => nofun
    case dropLock | closeOut => exact fun _ _ _ _ => rfl
    -- the poll function returns false only after it has seen the core closed
    case closedNotify hj => exact fun _ _ _ _ => h.closedPc _ hj
    case regClosed _ hc => exact fun _ _ _ _ => hc
    case inEndIn _ _ _ ht' => exact fun ht => nomatch ht.symm.trans ht'
    case beginPipeGone _ _ _ _ ho' => exact fun _ _ ho => nomatch ho.symm.trans ho'
    case clearFn hj => exact fun ht hg ho _ => h.doneOut ht hg ho (.inr ⟨_, hj⟩)
    all_goals first | exact h.doneOut | (rintro ht hg ho (hq | ⟨_, ⟨⟩⟩); exact h.doneOut ht hg ho (.inl hq))

end Desync.Pipe
