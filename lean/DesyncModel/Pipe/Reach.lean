/-
All pipe invariants hold in every reachable state; the pipe's own steps terminate (a measure that every internal step decreases:
between two actions of the environment — an item sent, a read by the consumer, ... — the pipe takes at most `measure s` steps);
what a state in which the pipe can do nothing more looks like.
-/
import DesyncModel.Pipe.Inv

namespace Desync.Pipe

structure PInv (s : PState) : Prop where
  hist : HistInv s
  idx : IdxInv s
  flag : FlagInv s
  reg : RegInv s
  wake : WakeInv s
  cons : ConsInv s
  fin : EndInv s
  inp : InInv s

theorem pinv_init (t : Bool) (d : Nat) : PInv (initP t d) :=
  ⟨histInv_init t d, idxInv_init t d, flagInv_init t d, regInv_init t d, wakeInv_init t d, consInv_init t d, endInv_init t d, inInv_init t d⟩

theorem pinv_step {s s' : PState} {l : Label} (h : PInv s) (hs : step s l = some s') : PInv s' :=
  have hs := Step.of_step hs
  ⟨histInv_step h.hist hs, idxInv_step h.idx hs, flagInv_step h.flag hs, regInv_step h.idx h.reg hs,
   wakeInv_step h.flag h.reg h.wake hs, consInv_step h.cons hs, endInv_step h.hist h.flag h.fin hs,
   inInv_step h.hist h.flag h.wake h.inp hs⟩

theorem pinv_reachable {s : PState} (h : Reachable s) : PInv s := by
  induction h with
  | init t d => exact pinv_init t d
  | step l _ hs ih => exact pinv_step ih hs

/-- for the concrete witnesses next to the property theorems -/
def runLabels (s : PState) : List Label → Option PState
  | [] => some s
  | l :: ls => (step s l).bind (runLabels · ls)

theorem reachable_run {s s' : PState} {ls : List Label} (hr : Reachable s) (h : runLabels s ls = some s') : Reachable s' := by
  induction ls generalizing s with
  | nil => simp [runLabels] at h; exact h ▸ hr
  | cons l ls ih =>
    simp only [runLabels] at h
    cases hs : step s l with
    | none => simp [hs] at h
    | some s1 => rw [hs] at h; exact ih (Reachable.step l hr hs) h

theorem reachable_get (s : PState) (ls : List Label) (h : (runLabels s ls).isSome = true) (hr : Reachable s) :
    Reachable ((runLabels s ls).get h) :=
  reachable_run hr (Option.some_get h).symm

def rank : PJ → Nat
  | .checkFull => 9 | .closedNotify => 8 | .process _ => 7 | .push _ => 6 | .clearNsc => 5 | .pollInput => 4
  | .regNsc => 3 | .closeOut => 3 | .clearing => 1

def jobRank (s : PState) : Nat := match s.job with | some (pc, _) => rank pc | none => 0

def b (x : Bool) : Nat := if x then 1 else 0

theorem b_true : b true = 1 := rfl
theorem b_false : b false = 0 := rfl

def measure (s : PState) : Nat :=
  10 * s.inq.length + 80 * s.pendingWakes.length + 40 * s.polling + 20 * s.scheduled + jobRank s
  + b s.dropping + b s.onDropQueued + b s.chuteFn + b s.pollFn + b (!s.streamDropped) + b (!s.fnDropped)

theorem measure_decreases {s s' : PState} {l : Label} (hl : internal l = true) (hs : step s l = some s') : measure s' < measure s := by
  cases Step.of_step hs
  case sendGone | send | close | consItem | consEnd | consWait | taskWake | dropLock | setDepth => cases hl
  -- a counter that goes down is written as a successor, so that no subtraction is left for the arithmetic.
  -- A wake that completes is worth more than the `poll` call it may start,
  case wakeArmed hm _ | wakeSpent hm _ =>
    obtain ⟨w, hw⟩ := Nat.exists_eq_succ_of_ne_zero (Nat.ne_of_gt (List.length_pos_of_mem hm))
    simp +arith only [measure, jobRank, List.length_erase_of_mem hm, hw, Nat.succ_eq_add_one, Nat.add_sub_cancel]
  -- a `poll` call more than the operation it schedules and the flag it may set,
  case schedule hp | ctxDead hp _ | ctxDeadTake hp _ =>
    obtain ⟨p, hp⟩ := Nat.exists_eq_succ_of_ne_zero hp
    simp +arith only [measure, jobRank, *, b_true, b_false, Nat.succ_eq_add_one, Nat.add_sub_cancel]
  -- a scheduled operation more than any rank
  case beginNoFn hn hc _ | beginPipe hn hc _ _ _ | beginPipeGone hn hc _ _ _ | beginPipeIn hn hc _ _ =>
    obtain ⟨c, hc⟩ := Nat.exists_eq_succ_of_ne_zero hc
    simp +arith only [measure, jobRank, rank, hn, hc, Nat.succ_eq_add_one, Nat.add_sub_cancel]
  -- the other rules lower the rank of the running operation or use up an input item or a flag; `b` stays folded, since
  -- unfolded every flag is a case split
  all_goals simp +arith only [measure, jobRank, rank, *, List.length_cons, Bool.not_true, Bool.not_false, b_true, b_false]

/-- A sequence of `n` steps of the pipe itself. -/
inductive InternalRun : PState → Nat → PState → Prop where
  | nil (s : PState) : InternalRun s 0 s
  | cons {s s' s'' : PState} {n : Nat} (l : Label) : internal l = true → step s l = some s' → InternalRun s' n s'' → InternalRun s (n + 1) s''

/-- the pipe cannot run forever by itself: every internal run from `s` has at most `measure s` steps -/
theorem internalRun_bounded {s s' : PState} {n : Nat} (h : InternalRun s n s') : n + measure s' ≤ measure s := by
  induction h with
  | nil s => simp
  | cons l hl hs _ ih => have := measure_decreases hl hs; omega

theorem internalRun_reachable {s s' : PState} {n : Nat} (hr : Reachable s) (h : InternalRun s n s') : Reachable s' := by
  induction h with
  | nil s => exact hr
  | cons l _ hs _ ih => exact ih (Reachable.step l hr hs)

/-- what `Stuck` means field by field -/
structure StuckFacts (s : PState) : Prop where
  job : s.job = none
  scheduled : s.scheduled = 0
  polling : s.polling = 0
  wakes : s.pendingWakes = []
  chute : s.chuteFn = false
  dropping : s.dropping = false
  onDrop : s.onDropQueued = false
  refs : s.pollFn = true → ctxRefs s = true
  streamD : s.pollFn = false → s.jobHoldsFn = false → s.streamDropped = true
  fnD : s.pollFn = false → s.jobHoldsFn = false → s.fnDropped = true

/-- at every pc of a poll operation one of the pipe's own rules applies -/
theorem stuck_job {s : PState} (h : Stuck s) : s.job = none := by
  rcases hj : s.job with _ | ⟨pc, k⟩
  · rfl
  cases pc with
  | checkFull =>
    by_cases hf : s.core.pending.length ≥ s.core.depth
    · exact h.elim rfl (.full hj hf)
    · cases hc : s.core.closed
      · exact h.elim rfl (.seeOpen hj (Nat.lt_of_not_ge hf) hc)
      · exact h.elim rfl (.seeClosed hj (Nat.lt_of_not_ge hf) hc)
  | closedNotify => exact h.elim rfl (.closedNotify hj)
  | clearNsc => exact h.elim rfl (.clearNsc hj)
  | push v => exact h.elim rfl (.push hj)
  | regNsc =>
    cases hc : s.core.closed
    · exact h.elim rfl (.regNsc hj hc)
    · exact h.elim rfl (.regClosed hj hc)
  | closeOut => exact h.elim rfl (.closeOut hj)
  | process v =>
    cases ht : s.through
    · exact h.elim rfl (.itemIn hj ht)
    · exact h.elim rfl (.item hj ht)
  | clearing => exact h.elim rfl (.clearFn hj)
  | pollInput =>
    cases hq : s.inq with
    | cons v rest => exact h.elim rfl (.yield hj hq)
    | nil =>
      cases hc : s.inClosed <;> cases ht : s.through
      · exact h.elim rfl (.inPendingIn hj hq hc ht)
      · exact h.elim rfl (.inPending hj hq hc ht)
      · exact h.elim rfl (.inEndIn hj hq hc ht)
      · exact h.elim rfl (.inEnd hj hq hc ht)

theorem stuck_facts {s : PState} (hi : IdxInv s) (h : Stuck s) : StuckFacts s := by
  have hj := stuck_job h
  have hch : s.chuteFn = false := Bool.of_not_eq_true fun hc => h.elim rfl (.chuteRun hc)
  refine { job := hj, chute := hch, scheduled := Decidable.byContradiction fun hz => ?_,
           polling := Decidable.byContradiction fun hz => h.elim rfl (.schedule hz), wakes := ?_,
           dropping := Bool.of_not_eq_true fun hc => h.elim rfl (.dropDone hc),
           onDrop := Bool.of_not_eq_true fun hc => h.elim rfl (.dispose hc),
           refs := fun hp => Bool.of_not_eq_false fun hc => h.elim rfl (.ctxFree hp hc),
           streamD := fun hp hh => Bool.of_not_eq_false fun hd => h.elim rfl (.streamDrop hd hp hh hch),
           fnD := fun hp hh => Bool.of_not_eq_false fun hd => h.elim rfl (.fnDrop hd hp hh hch) }
  · cases hp : s.pollFn
    · exact h.elim rfl (.beginNoFn hj hz hp)
    · cases ht : s.through
      · exact h.elim rfl (.beginPipeIn hj hz hp ht)
      · cases ho : s.outAlive
        · exact h.elim rfl (.beginPipeGone hj hz hp ht ho)
        · exact h.elim rfl (.beginPipe hj hz hp ht ho)
  · cases hw : s.pendingWakes with
    | nil => rfl
    | cons k rest =>
      have hm : k ∈ s.pendingWakes := by simp [hw]
      have hlt := hi.wakesLt k hm
      cases hb : s.wakers[k]
      · exact h.elim rfl (.wakeSpent hm (by rw [List.getElem?_eq_getElem hlt, hb]))
      · exact h.elim rfl (.wakeArmed hm (by rw [List.getElem?_eq_getElem hlt, hb]))

/-- in a stuck pipe the only wake-up sources left are the two parked ones: back-pressure, or the input's waker -/
theorem wake_source_when_stuck {s : PState} (sf : StuckFacts s) (w : WakeSource s) :
    (s.through = true ∧ s.outAlive = true ∧ slotArmed s s.core.bp = true) ∨ (slotArmed s s.inWaker = true ∧ s.inq = [] ∧ s.inClosed = false) := by
  rcases w with w | w | ⟨k, hk, _⟩ | w | w
  · rw [sf.scheduled] at w; cases w
  · rw [sf.polling] at w; cases w
  · rw [sf.wakes] at hk; cases hk
  · exact Or.inl w
  · exact Or.inr w

theorem StuckFacts.holdsFn {s : PState} (sf : StuckFacts s) (hf : FlagInv s) : s.jobHoldsFn = false := by
  rw [hf.holdsFn]; simp [jobActive, sf.job]

theorem StuckFacts.released {s : PState} (sf : StuckFacts s) (hf : FlagInv s) (hp : s.pollFn = false) :
    s.streamDropped = true ∧ s.fnDropped = true :=
  ⟨sf.streamD hp (sf.holdsFn hf), sf.fnD hp (sf.holdsFn hf)⟩

end Desync.Pipe
