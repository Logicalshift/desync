/-
The environment's moves as rules, and the induction principle the invariants use: a property of states holds in every
reachable state if it holds initially, is kept by every `Step` and by every `EnvStep`.
-/
import DesyncModel.Model
import DesyncModel.StepRel

namespace Desync

def State.setChild (s : State) (p : Option Nat) (c : Option Nat) : State :=
  match p with
  | some p => match s.acts[p]? with
    | some pv => s.setAct p { pv with child := c }
    | none => s
  | none => s

def newAct (t : Nat) (parent : Option Nat) (pc : Pc) (once : Bool) : Act :=
  { thread := t, pc := pc, parent := parent, child := none, woken := false, result := none, mode := .await, once := once }

theorem addAct_fst (s : State) (t : Nat) (parent : Option Nat) (pc : Pc) (once : Bool) :
    (addAct s t parent pc once).1 =
      ({ s with acts := s.acts ++ [newAct t parent pc once], nextOp := s.nextOp + 1 } : State).setChild parent (some s.acts.length) := by
  cases parent with
  | none => rfl
  | some p => cases h : (s.acts ++ [newAct t (some p) pc once])[p]? <;> simp [addAct, State.setChild, newAct] at h ⊢ <;> simp [h]

def Fut.fresh (q : Nat) : Fut := { q := q, res := .none, waker := none }

/-- `Starts s c s0 pc once`: call `c`, made in state `s`, first creates what it hands back to its caller (result slots, a
sync-future, the resume gate) or opens its gate, which gives `s0`; its activity then starts at `pc`. -/
inductive Starts (s : State) : Call → State → Pc → Bool → Prop
  | desync {q} : Starts s (.desync q) s (.dsPush q (.plain s.nextOp)) false
  | sync {q} : Starts s (.sync q) s (.syDecide q (.user s.nextOp)) false
  | trySync {q} : Starts s (.trySync q) s (.tsDecide q (.user s.nextOp)) false
  | fdesync {q gate} : Starts s (.fdesync q gate)
      { s with futs := s.futs ++ [Fut.fresh q], opFut := (s.nextOp, s.futs.length) :: s.opFut }
      (.dsPush q (.fut s.nextOp gate s.futs.length)) false
  | after {q gate} : Starts s (.after q gate)
      (({ s with futs := s.futs ++ [Fut.fresh q], opFut := (s.nextOp, s.futs.length) :: s.opFut } : State).regGate (some gate) s.nextOp)
      (.dsPush q (.after s.nextOp gate s.futs.length)) false
  | awaitFut {o f once} : s.futOf o = some f → Starts s (if once then .pollOnce o else .await o) s (.pfPoll f) once
  | awaitSf {o u once} : s.futOf o = none → s.sfOf o = some u → Starts s (if once then .pollOnce o else .await o) s (.sfPoll u) once
  | fsync {q gate} : Starts s (.fsync q gate)
      { s with futs := s.futs ++ [Fut.fresh q],
               sfs := s.sfs ++ [{ f := s.futs.length, q := q, op := s.nextOp, gate := gate, stage := .waitingForQueue, readySent := false,
                                  readyWaker := none, doneSent := false, doneWaker := none, userBegun := false, userEnded := false, userReg := none }],
               opSf := (s.nextOp, s.sfs.length) :: s.opSf }
      (.dsPush q (.slot s.sfs.length s.futs.length)) false
  | suspend {q} : Starts s (.suspend q)
      { s with futs := s.futs ++ [Fut.fresh q, Fut.fresh q], gates := s.gates ++ [{ isOpen := false, waiting := [s.nextOp] }],
               opFut := (s.nextOp, s.futs.length) :: s.opFut }
      (.dsPush q (.susp s.nextOp s.gates.length s.futs.length (s.futs.length + 1))) false
  | resume {o} : Starts s (.resume o) s (.resumeSend o .ret) false
  | dropObj {q} : Starts s (.dropObj q) s (.syDecide q (.free q)) false
  | syncf {o f} : s.futOf o = some f → Starts s (.syncf o) s (.fsTake f) false
  | dropSf {o u} : s.sfOf o = some u → Starts s (.dropf o) s (.sfDrop u) false
  | dropFut {o f} : s.sfOf o = none → s.futOf o = some f → s.isSuspendOp o = false → Starts s (.dropf o) s (.fdDrop f .ret) false
  | dropFutResume {o f} : s.sfOf o = none → s.futOf o = some f → s.isSuspendOp o = true →
      Starts s (.dropf o) s (.fdDrop f (.resumeSend o .ret)) false
  | dropNothing {o} : s.sfOf o = none → s.futOf o = none → s.isSuspendOp o = false → Starts s (.dropf o) s .ret false
  | dropResumer {o} : s.sfOf o = none → s.futOf o = none → s.isSuspendOp o = true → Starts s (.dropf o) s (.resumeSend o .ret) false
  | openGate {g gt} : s.gates[g]? = some gt → Starts s (.openGate g) (s.setGate g { gt with isOpen := true }) (.openSend g .ret) false
  | setMax {n} : Starts s (.setMax n) s (.smSet n) false
  | despawn : Starts s .despawn s .dpRead false

theorem fst_of_some {p : State × Nat} {s' : State} {a : Nat} (h : some p = some (s', a)) : s' = p.1 := by cases h; rfl

theorem Starts.of_invoke {s s' : State} {t a : Nat} {parent : Option Nat} {c : Call} (h : invoke s t parent c = some (s', a)) :
    ∃ s0 pc once, Starts s c s0 pc once ∧ s' = (addAct s0 t parent pc once).1 := by
  unfold invoke at h
  cases c <;> simp only at h
  case desync q => exact ⟨_, _, _, .desync, fst_of_some h⟩
  case sync q => exact ⟨_, _, _, .sync, fst_of_some h⟩
  case trySync q => exact ⟨_, _, _, .trySync, fst_of_some h⟩
  case fdesync q gate => exact ⟨_, _, _, .fdesync, fst_of_some h⟩
  case after q gate => exact ⟨_, _, _, .after, fst_of_some h⟩
  case await o =>
    split at h
    · next f hf => exact ⟨_, _, _, .awaitFut (once := false) hf, fst_of_some h⟩
    · next hf =>
      split at h
      · next u hu => exact ⟨_, _, _, .awaitSf (once := false) hf hu, fst_of_some h⟩
      · cases h
  case pollOnce o =>
    split at h
    · next f hf => exact ⟨_, _, _, .awaitFut (once := true) hf, fst_of_some h⟩
    · next hf =>
      split at h
      · next u hu => exact ⟨_, _, _, .awaitSf (once := true) hf hu, fst_of_some h⟩
      · cases h
  case fsync q gate => exact ⟨_, _, _, .fsync, fst_of_some h⟩
  case suspend q => exact ⟨_, _, _, .suspend, fst_of_some h⟩
  case resume o => exact ⟨_, _, _, .resume, fst_of_some h⟩
  case dropObj q => exact ⟨_, _, _, .dropObj, fst_of_some h⟩
  case syncf o =>
    split at h
    · next f hf => exact ⟨_, _, _, .syncf hf, fst_of_some h⟩
    · cases h
  case dropf o =>
    split at h
    · next u hu => exact ⟨_, _, _, .dropSf hu, fst_of_some h⟩
    · next hu =>
      split at h
      · next f hf =>
        split at h
        · next hs => exact ⟨_, _, _, .dropFutResume hu hf hs, fst_of_some h⟩
        · next hs => exact ⟨_, _, _, .dropFut hu hf (by simpa using hs), fst_of_some h⟩
      · next hf =>
        split at h
        · next hs => exact ⟨_, _, _, .dropResumer hu hf hs, fst_of_some h⟩
        · next hs => exact ⟨_, _, _, .dropNothing hu hf (by simpa using hs), fst_of_some h⟩
  case openGate g =>
    split at h
    · next gt hg => exact ⟨_, _, _, .openGate hg, fst_of_some h⟩
    · cases h
  case setMax n => exact ⟨_, _, _, .setMax, fst_of_some h⟩
  case despawn => exact ⟨_, _, _, .despawn, fst_of_some h⟩

inductive EnvStep (s : State) : Label → State → Prop
  | invoke {t parent c s0 pc once} : invokeOk s t parent = true → Starts s c s0 pc once →
      EnvStep s (.invoke t parent c) (addAct s0 t parent pc once).1
  | bodyEnd {a act op k} : s.acts[a]? = some act → act.child = none → act.pc = .body op k → EnvStep s (.bodyEnd a) (s.goto a k)
  | ret {a act} : s.acts[a]? = some act → act.pc = .ret →
      EnvStep s (.ret a) ((s.setAct a { act with pc := .dead }).setChild act.parent none)
  | unpark {a act q j k} : s.acts[a]? = some act → act.pc = .rjParked q j k →
      EnvStep s (.spuriousUnpark a) (s.goto a (.rjParkCheck q j k))
  | repoll {a act f} : s.acts[a]? = some act → act.pc = .pfBlocked f → EnvStep s (.spuriousPoll a) (s.goto a (.pfPoll f))
  | repollSf {a act u} : s.acts[a]? = some act → act.pc = .sfBlocked u → EnvStep s (.spuriousPoll a) (s.goto a (.sfPoll u))

theorem next_cases {s s' : State} {l : Label} (h : next s l = some s') :
    (∃ a act, l = .act a ∧ s.acts[a]? = some act ∧ act.child = none ∧ Step s a act s') ∨ EnvStep s l s' := by
  cases l with
  | act a =>
    simp only [next, Option.map_eq_some_iff] at h
    obtain ⟨⟨s1, o⟩, hs, rfl⟩ := h
    obtain ⟨act, ha, hc, hst⟩ := Step.of_stepAct hs
    exact .inl ⟨a, act, rfl, ha, hc, hst⟩
  | invoke t parent c =>
    simp only [next] at h
    split at h
    · next hok =>
      simp only [Option.map_eq_some_iff] at h
      obtain ⟨⟨s1, a⟩, hs, rfl⟩ := h
      obtain ⟨s0, pc, once, hst, rfl⟩ := Starts.of_invoke hs
      exact .inr (.invoke hok hst)
    · cases h
  | bodyEnd a =>
    simp only [next, bodyEnd] at h
    split at h
    · next act ha =>
      split at h
      · cases h
      · next hc =>
        split at h
        · next op k hpc => cases h; exact .inr (.bodyEnd ha (by simpa using hc) hpc)
        · cases h
    · cases h
  | ret a =>
    simp only [next, retStep] at h
    split at h
    · next act ha =>
      split at h
      · next hpc => cases h; exact .inr (.ret ha hpc)
      · cases h
    · cases h
  | spuriousUnpark a =>
    simp only [next, spuriousUnpark] at h
    split at h
    · next act ha =>
      split at h
      · next q j k hpc => cases h; exact .inr (.unpark ha hpc)
      · cases h
    · cases h
  | spuriousPoll a =>
    simp only [next, spuriousPoll] at h
    split at h
    · next act ha =>
      split at h
      · next f hpc => cases h; exact .inr (.repoll ha hpc)
      · next u hpc => cases h; exact .inr (.repollSf ha hpc)
      · cases h
    · cases h

theorem initState_eq (nq ng max : Nat) : initState nq ng max = initStateP (List.replicate nq false) ng max := by
  simp [initStateP, initState]

/-- **How every invariant is lifted to the reachable states**: it holds in the initial states, every rule of `Step` keeps it and
every move of the environment keeps it.  The step cases may use what is already known of reachable states. -/
theorem Reachable.invariant {P : State → Prop} (h0 : ∀ ps ng max, P (initStateP ps ng max))
    (hstep : ∀ {s a act s'}, Reachable s → P s → s.acts[a]? = some act → act.child = none → Step s a act s' → P s')
    (henv : ∀ {s l s'}, Reachable s → P s → EnvStep s l s' → P s') : ∀ {s}, Reachable s → P s := by
  intro s hr
  induction hr with
  | init nq ng max => exact initState_eq nq ng max ▸ h0 _ ng max
  | initP ps ng max => exact h0 ps ng max
  | step l hr hn ih =>
    rcases next_cases hn with ⟨a, act, -, ha, hc, hst⟩ | he
    · exact hstep hr ih ha hc hst
    · exact henv hr ih he

end Desync
