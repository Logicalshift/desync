/- What each state setter does to each field of the state: the field it writes, and every field it leaves alone (`rfl`, or by unfolding for the setters that first look up what they rewrite); at the end the same for `newJob` and `dequeue`. -/
import DesyncModel.Step

namespace Desync

@[simp] theorem jobs_setQ (s : State) (q : Nat) (v : JobQ) : (s.setQ q v).jobs = s.jobs := rfl
@[simp] theorem futs_setQ (s : State) (q : Nat) (v : JobQ) : (s.setQ q v).futs = s.futs := rfl
@[simp] theorem gates_setQ (s : State) (q : Nat) (v : JobQ) : (s.setQ q v).gates = s.gates := rfl
@[simp] theorem latches_setQ (s : State) (q : Nat) (v : JobQ) : (s.setQ q v).latches = s.latches := rfl
@[simp] theorem doubles_setQ (s : State) (q : Nat) (v : JobQ) : (s.setQ q v).doubles = s.doubles := rfl
@[simp] theorem pthreads_setQ (s : State) (q : Nat) (v : JobQ) : (s.setQ q v).pthreads = s.pthreads := rfl
@[simp] theorem threadsVec_setQ (s : State) (q : Nat) (v : JobQ) : (s.setQ q v).threadsVec = s.threadsVec := rfl
@[simp] theorem threadsLock_setQ (s : State) (q : Nat) (v : JobQ) : (s.setQ q v).threadsLock = s.threadsLock := rfl
@[simp] theorem schedule_setQ (s : State) (q : Nat) (v : JobQ) : (s.setQ q v).schedule = s.schedule := rfl
@[simp] theorem schedLock_setQ (s : State) (q : Nat) (v : JobQ) : (s.setQ q v).schedLock = s.schedLock := rfl
@[simp] theorem maxThreads_setQ (s : State) (q : Nat) (v : JobQ) : (s.setQ q v).maxThreads = s.maxThreads := rfl
@[simp] theorem readyLock_setQ (s : State) (q : Nat) (v : JobQ) : (s.setQ q v).readyLock = s.readyLock := rfl
@[simp] theorem ready_setQ (s : State) (q : Nat) (v : JobQ) : (s.setQ q v).ready = s.ready := rfl
@[simp] theorem opFut_setQ (s : State) (q : Nat) (v : JobQ) : (s.setQ q v).opFut = s.opFut := rfl
@[simp] theorem opSf_setQ (s : State) (q : Nat) (v : JobQ) : (s.setQ q v).opSf = s.opSf := rfl
@[simp] theorem sfs_setQ (s : State) (q : Nat) (v : JobQ) : (s.setQ q v).sfs = s.sfs := rfl
@[simp] theorem dropped_setQ (s : State) (q : Nat) (v : JobQ) : (s.setQ q v).dropped = s.dropped := rfl
@[simp] theorem parkToken_setQ (s : State) (q : Nat) (v : JobQ) : (s.setQ q v).parkToken = s.parkToken := rfl
@[simp] theorem taskWoken_setQ (s : State) (q : Nat) (v : JobQ) : (s.setQ q v).taskWoken = s.taskWoken := rfl
@[simp] theorem acts_setQ (s : State) (q : Nat) (v : JobQ) : (s.setQ q v).acts = s.acts := rfl
@[simp] theorem nextOp_setQ (s : State) (q : Nat) (v : JobQ) : (s.setQ q v).nextOp = s.nextOp := rfl
@[simp] theorem holder_setQ (s : State) (q : Nat) (v : JobQ) : (s.setQ q v).holder = s.holder := rfl

@[simp] theorem qs_setJob (s : State) (j : Nat) (v : Job) : (s.setJob j v).qs = s.qs := rfl
@[simp] theorem futs_setJob (s : State) (j : Nat) (v : Job) : (s.setJob j v).futs = s.futs := rfl
@[simp] theorem gates_setJob (s : State) (j : Nat) (v : Job) : (s.setJob j v).gates = s.gates := rfl
@[simp] theorem latches_setJob (s : State) (j : Nat) (v : Job) : (s.setJob j v).latches = s.latches := rfl
@[simp] theorem doubles_setJob (s : State) (j : Nat) (v : Job) : (s.setJob j v).doubles = s.doubles := rfl
@[simp] theorem pthreads_setJob (s : State) (j : Nat) (v : Job) : (s.setJob j v).pthreads = s.pthreads := rfl
@[simp] theorem threadsVec_setJob (s : State) (j : Nat) (v : Job) : (s.setJob j v).threadsVec = s.threadsVec := rfl
@[simp] theorem threadsLock_setJob (s : State) (j : Nat) (v : Job) : (s.setJob j v).threadsLock = s.threadsLock := rfl
@[simp] theorem schedule_setJob (s : State) (j : Nat) (v : Job) : (s.setJob j v).schedule = s.schedule := rfl
@[simp] theorem schedLock_setJob (s : State) (j : Nat) (v : Job) : (s.setJob j v).schedLock = s.schedLock := rfl
@[simp] theorem maxThreads_setJob (s : State) (j : Nat) (v : Job) : (s.setJob j v).maxThreads = s.maxThreads := rfl
@[simp] theorem readyLock_setJob (s : State) (j : Nat) (v : Job) : (s.setJob j v).readyLock = s.readyLock := rfl
@[simp] theorem ready_setJob (s : State) (j : Nat) (v : Job) : (s.setJob j v).ready = s.ready := rfl
@[simp] theorem opFut_setJob (s : State) (j : Nat) (v : Job) : (s.setJob j v).opFut = s.opFut := rfl
@[simp] theorem opSf_setJob (s : State) (j : Nat) (v : Job) : (s.setJob j v).opSf = s.opSf := rfl
@[simp] theorem sfs_setJob (s : State) (j : Nat) (v : Job) : (s.setJob j v).sfs = s.sfs := rfl
@[simp] theorem dropped_setJob (s : State) (j : Nat) (v : Job) : (s.setJob j v).dropped = s.dropped := rfl
@[simp] theorem parkToken_setJob (s : State) (j : Nat) (v : Job) : (s.setJob j v).parkToken = s.parkToken := rfl
@[simp] theorem taskWoken_setJob (s : State) (j : Nat) (v : Job) : (s.setJob j v).taskWoken = s.taskWoken := rfl
@[simp] theorem acts_setJob (s : State) (j : Nat) (v : Job) : (s.setJob j v).acts = s.acts := rfl
@[simp] theorem nextOp_setJob (s : State) (j : Nat) (v : Job) : (s.setJob j v).nextOp = s.nextOp := rfl
@[simp] theorem holder_setJob (s : State) (j : Nat) (v : Job) : (s.setJob j v).holder = s.holder := rfl

@[simp] theorem qs_setFut (s : State) (f : Nat) (v : Fut) : (s.setFut f v).qs = s.qs := rfl
@[simp] theorem jobs_setFut (s : State) (f : Nat) (v : Fut) : (s.setFut f v).jobs = s.jobs := rfl
@[simp] theorem gates_setFut (s : State) (f : Nat) (v : Fut) : (s.setFut f v).gates = s.gates := rfl
@[simp] theorem latches_setFut (s : State) (f : Nat) (v : Fut) : (s.setFut f v).latches = s.latches := rfl
@[simp] theorem doubles_setFut (s : State) (f : Nat) (v : Fut) : (s.setFut f v).doubles = s.doubles := rfl
@[simp] theorem pthreads_setFut (s : State) (f : Nat) (v : Fut) : (s.setFut f v).pthreads = s.pthreads := rfl
@[simp] theorem threadsVec_setFut (s : State) (f : Nat) (v : Fut) : (s.setFut f v).threadsVec = s.threadsVec := rfl
@[simp] theorem threadsLock_setFut (s : State) (f : Nat) (v : Fut) : (s.setFut f v).threadsLock = s.threadsLock := rfl
@[simp] theorem schedule_setFut (s : State) (f : Nat) (v : Fut) : (s.setFut f v).schedule = s.schedule := rfl
@[simp] theorem schedLock_setFut (s : State) (f : Nat) (v : Fut) : (s.setFut f v).schedLock = s.schedLock := rfl
@[simp] theorem maxThreads_setFut (s : State) (f : Nat) (v : Fut) : (s.setFut f v).maxThreads = s.maxThreads := rfl
@[simp] theorem readyLock_setFut (s : State) (f : Nat) (v : Fut) : (s.setFut f v).readyLock = s.readyLock := rfl
@[simp] theorem ready_setFut (s : State) (f : Nat) (v : Fut) : (s.setFut f v).ready = s.ready := rfl
@[simp] theorem opFut_setFut (s : State) (f : Nat) (v : Fut) : (s.setFut f v).opFut = s.opFut := rfl
@[simp] theorem opSf_setFut (s : State) (f : Nat) (v : Fut) : (s.setFut f v).opSf = s.opSf := rfl
@[simp] theorem sfs_setFut (s : State) (f : Nat) (v : Fut) : (s.setFut f v).sfs = s.sfs := rfl
@[simp] theorem dropped_setFut (s : State) (f : Nat) (v : Fut) : (s.setFut f v).dropped = s.dropped := rfl
@[simp] theorem parkToken_setFut (s : State) (f : Nat) (v : Fut) : (s.setFut f v).parkToken = s.parkToken := rfl
@[simp] theorem taskWoken_setFut (s : State) (f : Nat) (v : Fut) : (s.setFut f v).taskWoken = s.taskWoken := rfl
@[simp] theorem acts_setFut (s : State) (f : Nat) (v : Fut) : (s.setFut f v).acts = s.acts := rfl
@[simp] theorem nextOp_setFut (s : State) (f : Nat) (v : Fut) : (s.setFut f v).nextOp = s.nextOp := rfl
@[simp] theorem holder_setFut (s : State) (f : Nat) (v : Fut) : (s.setFut f v).holder = s.holder := rfl

@[simp] theorem qs_setGate (s : State) (g : Nat) (v : Gate) : (s.setGate g v).qs = s.qs := rfl
@[simp] theorem jobs_setGate (s : State) (g : Nat) (v : Gate) : (s.setGate g v).jobs = s.jobs := rfl
@[simp] theorem futs_setGate (s : State) (g : Nat) (v : Gate) : (s.setGate g v).futs = s.futs := rfl
@[simp] theorem latches_setGate (s : State) (g : Nat) (v : Gate) : (s.setGate g v).latches = s.latches := rfl
@[simp] theorem doubles_setGate (s : State) (g : Nat) (v : Gate) : (s.setGate g v).doubles = s.doubles := rfl
@[simp] theorem pthreads_setGate (s : State) (g : Nat) (v : Gate) : (s.setGate g v).pthreads = s.pthreads := rfl
@[simp] theorem threadsVec_setGate (s : State) (g : Nat) (v : Gate) : (s.setGate g v).threadsVec = s.threadsVec := rfl
@[simp] theorem threadsLock_setGate (s : State) (g : Nat) (v : Gate) : (s.setGate g v).threadsLock = s.threadsLock := rfl
@[simp] theorem schedule_setGate (s : State) (g : Nat) (v : Gate) : (s.setGate g v).schedule = s.schedule := rfl
@[simp] theorem schedLock_setGate (s : State) (g : Nat) (v : Gate) : (s.setGate g v).schedLock = s.schedLock := rfl
@[simp] theorem maxThreads_setGate (s : State) (g : Nat) (v : Gate) : (s.setGate g v).maxThreads = s.maxThreads := rfl
@[simp] theorem readyLock_setGate (s : State) (g : Nat) (v : Gate) : (s.setGate g v).readyLock = s.readyLock := rfl
@[simp] theorem ready_setGate (s : State) (g : Nat) (v : Gate) : (s.setGate g v).ready = s.ready := rfl
@[simp] theorem opFut_setGate (s : State) (g : Nat) (v : Gate) : (s.setGate g v).opFut = s.opFut := rfl
@[simp] theorem opSf_setGate (s : State) (g : Nat) (v : Gate) : (s.setGate g v).opSf = s.opSf := rfl
@[simp] theorem sfs_setGate (s : State) (g : Nat) (v : Gate) : (s.setGate g v).sfs = s.sfs := rfl
@[simp] theorem dropped_setGate (s : State) (g : Nat) (v : Gate) : (s.setGate g v).dropped = s.dropped := rfl
@[simp] theorem parkToken_setGate (s : State) (g : Nat) (v : Gate) : (s.setGate g v).parkToken = s.parkToken := rfl
@[simp] theorem taskWoken_setGate (s : State) (g : Nat) (v : Gate) : (s.setGate g v).taskWoken = s.taskWoken := rfl
@[simp] theorem acts_setGate (s : State) (g : Nat) (v : Gate) : (s.setGate g v).acts = s.acts := rfl
@[simp] theorem nextOp_setGate (s : State) (g : Nat) (v : Gate) : (s.setGate g v).nextOp = s.nextOp := rfl
@[simp] theorem holder_setGate (s : State) (g : Nat) (v : Gate) : (s.setGate g v).holder = s.holder := rfl

@[simp] theorem qs_setAct (s : State) (a : Nat) (v : Act) : (s.setAct a v).qs = s.qs := rfl
@[simp] theorem jobs_setAct (s : State) (a : Nat) (v : Act) : (s.setAct a v).jobs = s.jobs := rfl
@[simp] theorem futs_setAct (s : State) (a : Nat) (v : Act) : (s.setAct a v).futs = s.futs := rfl
@[simp] theorem gates_setAct (s : State) (a : Nat) (v : Act) : (s.setAct a v).gates = s.gates := rfl
@[simp] theorem latches_setAct (s : State) (a : Nat) (v : Act) : (s.setAct a v).latches = s.latches := rfl
@[simp] theorem doubles_setAct (s : State) (a : Nat) (v : Act) : (s.setAct a v).doubles = s.doubles := rfl
@[simp] theorem pthreads_setAct (s : State) (a : Nat) (v : Act) : (s.setAct a v).pthreads = s.pthreads := rfl
@[simp] theorem threadsVec_setAct (s : State) (a : Nat) (v : Act) : (s.setAct a v).threadsVec = s.threadsVec := rfl
@[simp] theorem threadsLock_setAct (s : State) (a : Nat) (v : Act) : (s.setAct a v).threadsLock = s.threadsLock := rfl
@[simp] theorem schedule_setAct (s : State) (a : Nat) (v : Act) : (s.setAct a v).schedule = s.schedule := rfl
@[simp] theorem schedLock_setAct (s : State) (a : Nat) (v : Act) : (s.setAct a v).schedLock = s.schedLock := rfl
@[simp] theorem maxThreads_setAct (s : State) (a : Nat) (v : Act) : (s.setAct a v).maxThreads = s.maxThreads := rfl
@[simp] theorem readyLock_setAct (s : State) (a : Nat) (v : Act) : (s.setAct a v).readyLock = s.readyLock := rfl
@[simp] theorem ready_setAct (s : State) (a : Nat) (v : Act) : (s.setAct a v).ready = s.ready := rfl
@[simp] theorem opFut_setAct (s : State) (a : Nat) (v : Act) : (s.setAct a v).opFut = s.opFut := rfl
@[simp] theorem opSf_setAct (s : State) (a : Nat) (v : Act) : (s.setAct a v).opSf = s.opSf := rfl
@[simp] theorem sfs_setAct (s : State) (a : Nat) (v : Act) : (s.setAct a v).sfs = s.sfs := rfl
@[simp] theorem dropped_setAct (s : State) (a : Nat) (v : Act) : (s.setAct a v).dropped = s.dropped := rfl
@[simp] theorem parkToken_setAct (s : State) (a : Nat) (v : Act) : (s.setAct a v).parkToken = s.parkToken := rfl
@[simp] theorem taskWoken_setAct (s : State) (a : Nat) (v : Act) : (s.setAct a v).taskWoken = s.taskWoken := rfl
@[simp] theorem nextOp_setAct (s : State) (a : Nat) (v : Act) : (s.setAct a v).nextOp = s.nextOp := rfl
@[simp] theorem holder_setAct (s : State) (a : Nat) (v : Act) : (s.setAct a v).holder = s.holder := rfl

@[simp] theorem qs_setSf (s : State) (u : Nat) (v : SyncFut) : (s.setSf u v).qs = s.qs := rfl
@[simp] theorem jobs_setSf (s : State) (u : Nat) (v : SyncFut) : (s.setSf u v).jobs = s.jobs := rfl
@[simp] theorem futs_setSf (s : State) (u : Nat) (v : SyncFut) : (s.setSf u v).futs = s.futs := rfl
@[simp] theorem gates_setSf (s : State) (u : Nat) (v : SyncFut) : (s.setSf u v).gates = s.gates := rfl
@[simp] theorem latches_setSf (s : State) (u : Nat) (v : SyncFut) : (s.setSf u v).latches = s.latches := rfl
@[simp] theorem doubles_setSf (s : State) (u : Nat) (v : SyncFut) : (s.setSf u v).doubles = s.doubles := rfl
@[simp] theorem pthreads_setSf (s : State) (u : Nat) (v : SyncFut) : (s.setSf u v).pthreads = s.pthreads := rfl
@[simp] theorem threadsVec_setSf (s : State) (u : Nat) (v : SyncFut) : (s.setSf u v).threadsVec = s.threadsVec := rfl
@[simp] theorem threadsLock_setSf (s : State) (u : Nat) (v : SyncFut) : (s.setSf u v).threadsLock = s.threadsLock := rfl
@[simp] theorem schedule_setSf (s : State) (u : Nat) (v : SyncFut) : (s.setSf u v).schedule = s.schedule := rfl
@[simp] theorem schedLock_setSf (s : State) (u : Nat) (v : SyncFut) : (s.setSf u v).schedLock = s.schedLock := rfl
@[simp] theorem maxThreads_setSf (s : State) (u : Nat) (v : SyncFut) : (s.setSf u v).maxThreads = s.maxThreads := rfl
@[simp] theorem readyLock_setSf (s : State) (u : Nat) (v : SyncFut) : (s.setSf u v).readyLock = s.readyLock := rfl
@[simp] theorem ready_setSf (s : State) (u : Nat) (v : SyncFut) : (s.setSf u v).ready = s.ready := rfl
@[simp] theorem opFut_setSf (s : State) (u : Nat) (v : SyncFut) : (s.setSf u v).opFut = s.opFut := rfl
@[simp] theorem opSf_setSf (s : State) (u : Nat) (v : SyncFut) : (s.setSf u v).opSf = s.opSf := rfl
@[simp] theorem dropped_setSf (s : State) (u : Nat) (v : SyncFut) : (s.setSf u v).dropped = s.dropped := rfl
@[simp] theorem parkToken_setSf (s : State) (u : Nat) (v : SyncFut) : (s.setSf u v).parkToken = s.parkToken := rfl
@[simp] theorem taskWoken_setSf (s : State) (u : Nat) (v : SyncFut) : (s.setSf u v).taskWoken = s.taskWoken := rfl
@[simp] theorem acts_setSf (s : State) (u : Nat) (v : SyncFut) : (s.setSf u v).acts = s.acts := rfl
@[simp] theorem nextOp_setSf (s : State) (u : Nat) (v : SyncFut) : (s.setSf u v).nextOp = s.nextOp := rfl
@[simp] theorem holder_setSf (s : State) (u : Nat) (v : SyncFut) : (s.setSf u v).holder = s.holder := rfl

@[simp] theorem qs_setPThr (s : State) (p : Nat) (v : PThr) : (s.setPThr p v).qs = s.qs := rfl
@[simp] theorem jobs_setPThr (s : State) (p : Nat) (v : PThr) : (s.setPThr p v).jobs = s.jobs := rfl
@[simp] theorem futs_setPThr (s : State) (p : Nat) (v : PThr) : (s.setPThr p v).futs = s.futs := rfl
@[simp] theorem gates_setPThr (s : State) (p : Nat) (v : PThr) : (s.setPThr p v).gates = s.gates := rfl
@[simp] theorem latches_setPThr (s : State) (p : Nat) (v : PThr) : (s.setPThr p v).latches = s.latches := rfl
@[simp] theorem doubles_setPThr (s : State) (p : Nat) (v : PThr) : (s.setPThr p v).doubles = s.doubles := rfl
@[simp] theorem threadsVec_setPThr (s : State) (p : Nat) (v : PThr) : (s.setPThr p v).threadsVec = s.threadsVec := rfl
@[simp] theorem threadsLock_setPThr (s : State) (p : Nat) (v : PThr) : (s.setPThr p v).threadsLock = s.threadsLock := rfl
@[simp] theorem schedule_setPThr (s : State) (p : Nat) (v : PThr) : (s.setPThr p v).schedule = s.schedule := rfl
@[simp] theorem schedLock_setPThr (s : State) (p : Nat) (v : PThr) : (s.setPThr p v).schedLock = s.schedLock := rfl
@[simp] theorem maxThreads_setPThr (s : State) (p : Nat) (v : PThr) : (s.setPThr p v).maxThreads = s.maxThreads := rfl
@[simp] theorem readyLock_setPThr (s : State) (p : Nat) (v : PThr) : (s.setPThr p v).readyLock = s.readyLock := rfl
@[simp] theorem ready_setPThr (s : State) (p : Nat) (v : PThr) : (s.setPThr p v).ready = s.ready := rfl
@[simp] theorem opFut_setPThr (s : State) (p : Nat) (v : PThr) : (s.setPThr p v).opFut = s.opFut := rfl
@[simp] theorem opSf_setPThr (s : State) (p : Nat) (v : PThr) : (s.setPThr p v).opSf = s.opSf := rfl
@[simp] theorem sfs_setPThr (s : State) (p : Nat) (v : PThr) : (s.setPThr p v).sfs = s.sfs := rfl
@[simp] theorem dropped_setPThr (s : State) (p : Nat) (v : PThr) : (s.setPThr p v).dropped = s.dropped := rfl
@[simp] theorem parkToken_setPThr (s : State) (p : Nat) (v : PThr) : (s.setPThr p v).parkToken = s.parkToken := rfl
@[simp] theorem taskWoken_setPThr (s : State) (p : Nat) (v : PThr) : (s.setPThr p v).taskWoken = s.taskWoken := rfl
@[simp] theorem acts_setPThr (s : State) (p : Nat) (v : PThr) : (s.setPThr p v).acts = s.acts := rfl
@[simp] theorem nextOp_setPThr (s : State) (p : Nat) (v : PThr) : (s.setPThr p v).nextOp = s.nextOp := rfl
@[simp] theorem holder_setPThr (s : State) (p : Nat) (v : PThr) : (s.setPThr p v).holder = s.holder := rfl

@[simp] theorem qs_setHolder (s : State) (q : Nat) (h : Option Nat) : (s.setHolder q h).qs = s.qs := rfl
@[simp] theorem jobs_setHolder (s : State) (q : Nat) (h : Option Nat) : (s.setHolder q h).jobs = s.jobs := rfl
@[simp] theorem futs_setHolder (s : State) (q : Nat) (h : Option Nat) : (s.setHolder q h).futs = s.futs := rfl
@[simp] theorem gates_setHolder (s : State) (q : Nat) (h : Option Nat) : (s.setHolder q h).gates = s.gates := rfl
@[simp] theorem latches_setHolder (s : State) (q : Nat) (h : Option Nat) : (s.setHolder q h).latches = s.latches := rfl
@[simp] theorem doubles_setHolder (s : State) (q : Nat) (h : Option Nat) : (s.setHolder q h).doubles = s.doubles := rfl
@[simp] theorem pthreads_setHolder (s : State) (q : Nat) (h : Option Nat) : (s.setHolder q h).pthreads = s.pthreads := rfl
@[simp] theorem threadsVec_setHolder (s : State) (q : Nat) (h : Option Nat) : (s.setHolder q h).threadsVec = s.threadsVec := rfl
@[simp] theorem threadsLock_setHolder (s : State) (q : Nat) (h : Option Nat) : (s.setHolder q h).threadsLock = s.threadsLock := rfl
@[simp] theorem schedule_setHolder (s : State) (q : Nat) (h : Option Nat) : (s.setHolder q h).schedule = s.schedule := rfl
@[simp] theorem schedLock_setHolder (s : State) (q : Nat) (h : Option Nat) : (s.setHolder q h).schedLock = s.schedLock := rfl
@[simp] theorem maxThreads_setHolder (s : State) (q : Nat) (h : Option Nat) : (s.setHolder q h).maxThreads = s.maxThreads := rfl
@[simp] theorem readyLock_setHolder (s : State) (q : Nat) (h : Option Nat) : (s.setHolder q h).readyLock = s.readyLock := rfl
@[simp] theorem ready_setHolder (s : State) (q : Nat) (h : Option Nat) : (s.setHolder q h).ready = s.ready := rfl
@[simp] theorem opFut_setHolder (s : State) (q : Nat) (h : Option Nat) : (s.setHolder q h).opFut = s.opFut := rfl
@[simp] theorem opSf_setHolder (s : State) (q : Nat) (h : Option Nat) : (s.setHolder q h).opSf = s.opSf := rfl
@[simp] theorem sfs_setHolder (s : State) (q : Nat) (h : Option Nat) : (s.setHolder q h).sfs = s.sfs := rfl
@[simp] theorem dropped_setHolder (s : State) (q : Nat) (h : Option Nat) : (s.setHolder q h).dropped = s.dropped := rfl
@[simp] theorem parkToken_setHolder (s : State) (q : Nat) (h : Option Nat) : (s.setHolder q h).parkToken = s.parkToken := rfl
@[simp] theorem taskWoken_setHolder (s : State) (q : Nat) (h : Option Nat) : (s.setHolder q h).taskWoken = s.taskWoken := rfl
@[simp] theorem acts_setHolder (s : State) (q : Nat) (h : Option Nat) : (s.setHolder q h).acts = s.acts := rfl
@[simp] theorem nextOp_setHolder (s : State) (q : Nat) (h : Option Nat) : (s.setHolder q h).nextOp = s.nextOp := rfl

@[simp] theorem qs_goto (s : State) (a : Nat) (pc : Pc) : (s.goto a pc).qs = s.qs := by unfold State.goto; split <;> rfl
@[simp] theorem jobs_goto (s : State) (a : Nat) (pc : Pc) : (s.goto a pc).jobs = s.jobs := by unfold State.goto; split <;> rfl
@[simp] theorem futs_goto (s : State) (a : Nat) (pc : Pc) : (s.goto a pc).futs = s.futs := by unfold State.goto; split <;> rfl
@[simp] theorem gates_goto (s : State) (a : Nat) (pc : Pc) : (s.goto a pc).gates = s.gates := by unfold State.goto; split <;> rfl
@[simp] theorem latches_goto (s : State) (a : Nat) (pc : Pc) : (s.goto a pc).latches = s.latches := by unfold State.goto; split <;> rfl
@[simp] theorem doubles_goto (s : State) (a : Nat) (pc : Pc) : (s.goto a pc).doubles = s.doubles := by unfold State.goto; split <;> rfl
@[simp] theorem pthreads_goto (s : State) (a : Nat) (pc : Pc) : (s.goto a pc).pthreads = s.pthreads := by unfold State.goto; split <;> rfl
@[simp] theorem threadsVec_goto (s : State) (a : Nat) (pc : Pc) : (s.goto a pc).threadsVec = s.threadsVec := by unfold State.goto; split <;> rfl
@[simp] theorem threadsLock_goto (s : State) (a : Nat) (pc : Pc) : (s.goto a pc).threadsLock = s.threadsLock := by unfold State.goto; split <;> rfl
@[simp] theorem schedule_goto (s : State) (a : Nat) (pc : Pc) : (s.goto a pc).schedule = s.schedule := by unfold State.goto; split <;> rfl
@[simp] theorem schedLock_goto (s : State) (a : Nat) (pc : Pc) : (s.goto a pc).schedLock = s.schedLock := by unfold State.goto; split <;> rfl
@[simp] theorem maxThreads_goto (s : State) (a : Nat) (pc : Pc) : (s.goto a pc).maxThreads = s.maxThreads := by unfold State.goto; split <;> rfl
@[simp] theorem readyLock_goto (s : State) (a : Nat) (pc : Pc) : (s.goto a pc).readyLock = s.readyLock := by unfold State.goto; split <;> rfl
@[simp] theorem ready_goto (s : State) (a : Nat) (pc : Pc) : (s.goto a pc).ready = s.ready := by unfold State.goto; split <;> rfl
@[simp] theorem opFut_goto (s : State) (a : Nat) (pc : Pc) : (s.goto a pc).opFut = s.opFut := by unfold State.goto; split <;> rfl
@[simp] theorem opSf_goto (s : State) (a : Nat) (pc : Pc) : (s.goto a pc).opSf = s.opSf := by unfold State.goto; split <;> rfl
@[simp] theorem sfs_goto (s : State) (a : Nat) (pc : Pc) : (s.goto a pc).sfs = s.sfs := by unfold State.goto; split <;> rfl
@[simp] theorem dropped_goto (s : State) (a : Nat) (pc : Pc) : (s.goto a pc).dropped = s.dropped := by unfold State.goto; split <;> rfl
@[simp] theorem parkToken_goto (s : State) (a : Nat) (pc : Pc) : (s.goto a pc).parkToken = s.parkToken := by unfold State.goto; split <;> rfl
@[simp] theorem taskWoken_goto (s : State) (a : Nat) (pc : Pc) : (s.goto a pc).taskWoken = s.taskWoken := by unfold State.goto; split <;> rfl
@[simp] theorem nextOp_goto (s : State) (a : Nat) (pc : Pc) : (s.goto a pc).nextOp = s.nextOp := by unfold State.goto; split <;> rfl
@[simp] theorem holder_goto (s : State) (a : Nat) (pc : Pc) : (s.goto a pc).holder = s.holder := by unfold State.goto; split <;> rfl

@[simp] theorem qs_takeReady (s : State) (w a : Nat) : (s.takeReady w a).qs = s.qs := rfl
@[simp] theorem jobs_takeReady (s : State) (w a : Nat) : (s.takeReady w a).jobs = s.jobs := rfl
@[simp] theorem futs_takeReady (s : State) (w a : Nat) : (s.takeReady w a).futs = s.futs := rfl
@[simp] theorem gates_takeReady (s : State) (w a : Nat) : (s.takeReady w a).gates = s.gates := rfl
@[simp] theorem latches_takeReady (s : State) (w a : Nat) : (s.takeReady w a).latches = s.latches := rfl
@[simp] theorem doubles_takeReady (s : State) (w a : Nat) : (s.takeReady w a).doubles = s.doubles := rfl
@[simp] theorem pthreads_takeReady (s : State) (w a : Nat) : (s.takeReady w a).pthreads = s.pthreads := rfl
@[simp] theorem threadsVec_takeReady (s : State) (w a : Nat) : (s.takeReady w a).threadsVec = s.threadsVec := rfl
@[simp] theorem threadsLock_takeReady (s : State) (w a : Nat) : (s.takeReady w a).threadsLock = s.threadsLock := rfl
@[simp] theorem schedule_takeReady (s : State) (w a : Nat) : (s.takeReady w a).schedule = s.schedule := rfl
@[simp] theorem schedLock_takeReady (s : State) (w a : Nat) : (s.takeReady w a).schedLock = s.schedLock := rfl
@[simp] theorem maxThreads_takeReady (s : State) (w a : Nat) : (s.takeReady w a).maxThreads = s.maxThreads := rfl
@[simp] theorem ready_takeReady (s : State) (w a : Nat) : (s.takeReady w a).ready = s.ready := rfl
@[simp] theorem opFut_takeReady (s : State) (w a : Nat) : (s.takeReady w a).opFut = s.opFut := rfl
@[simp] theorem opSf_takeReady (s : State) (w a : Nat) : (s.takeReady w a).opSf = s.opSf := rfl
@[simp] theorem sfs_takeReady (s : State) (w a : Nat) : (s.takeReady w a).sfs = s.sfs := rfl
@[simp] theorem dropped_takeReady (s : State) (w a : Nat) : (s.takeReady w a).dropped = s.dropped := rfl
@[simp] theorem parkToken_takeReady (s : State) (w a : Nat) : (s.takeReady w a).parkToken = s.parkToken := rfl
@[simp] theorem taskWoken_takeReady (s : State) (w a : Nat) : (s.takeReady w a).taskWoken = s.taskWoken := rfl
@[simp] theorem acts_takeReady (s : State) (w a : Nat) : (s.takeReady w a).acts = s.acts := rfl
@[simp] theorem nextOp_takeReady (s : State) (w a : Nat) : (s.takeReady w a).nextOp = s.nextOp := rfl
@[simp] theorem holder_takeReady (s : State) (w a : Nat) : (s.takeReady w a).holder = s.holder := rfl

@[simp] theorem qs_dropReady (s : State) (w : Nat) : (s.dropReady w).qs = s.qs := rfl
@[simp] theorem jobs_dropReady (s : State) (w : Nat) : (s.dropReady w).jobs = s.jobs := rfl
@[simp] theorem futs_dropReady (s : State) (w : Nat) : (s.dropReady w).futs = s.futs := rfl
@[simp] theorem gates_dropReady (s : State) (w : Nat) : (s.dropReady w).gates = s.gates := rfl
@[simp] theorem latches_dropReady (s : State) (w : Nat) : (s.dropReady w).latches = s.latches := rfl
@[simp] theorem doubles_dropReady (s : State) (w : Nat) : (s.dropReady w).doubles = s.doubles := rfl
@[simp] theorem pthreads_dropReady (s : State) (w : Nat) : (s.dropReady w).pthreads = s.pthreads := rfl
@[simp] theorem threadsVec_dropReady (s : State) (w : Nat) : (s.dropReady w).threadsVec = s.threadsVec := rfl
@[simp] theorem threadsLock_dropReady (s : State) (w : Nat) : (s.dropReady w).threadsLock = s.threadsLock := rfl
@[simp] theorem schedule_dropReady (s : State) (w : Nat) : (s.dropReady w).schedule = s.schedule := rfl
@[simp] theorem schedLock_dropReady (s : State) (w : Nat) : (s.dropReady w).schedLock = s.schedLock := rfl
@[simp] theorem maxThreads_dropReady (s : State) (w : Nat) : (s.dropReady w).maxThreads = s.maxThreads := rfl
@[simp] theorem ready_dropReady (s : State) (w : Nat) : (s.dropReady w).ready = s.ready := rfl
@[simp] theorem opFut_dropReady (s : State) (w : Nat) : (s.dropReady w).opFut = s.opFut := rfl
@[simp] theorem opSf_dropReady (s : State) (w : Nat) : (s.dropReady w).opSf = s.opSf := rfl
@[simp] theorem sfs_dropReady (s : State) (w : Nat) : (s.dropReady w).sfs = s.sfs := rfl
@[simp] theorem dropped_dropReady (s : State) (w : Nat) : (s.dropReady w).dropped = s.dropped := rfl
@[simp] theorem parkToken_dropReady (s : State) (w : Nat) : (s.dropReady w).parkToken = s.parkToken := rfl
@[simp] theorem taskWoken_dropReady (s : State) (w : Nat) : (s.dropReady w).taskWoken = s.taskWoken := rfl
@[simp] theorem acts_dropReady (s : State) (w : Nat) : (s.dropReady w).acts = s.acts := rfl
@[simp] theorem nextOp_dropReady (s : State) (w : Nat) : (s.dropReady w).nextOp = s.nextOp := rfl
@[simp] theorem holder_dropReady (s : State) (w : Nat) : (s.dropReady w).holder = s.holder := rfl

@[simp] theorem qs_setWoken (s : State) (a : Nat) (b : Bool) : (s.setWoken a b).qs = s.qs := by unfold State.setWoken; split <;> rfl
@[simp] theorem jobs_setWoken (s : State) (a : Nat) (b : Bool) : (s.setWoken a b).jobs = s.jobs := by unfold State.setWoken; split <;> rfl
@[simp] theorem futs_setWoken (s : State) (a : Nat) (b : Bool) : (s.setWoken a b).futs = s.futs := by unfold State.setWoken; split <;> rfl
@[simp] theorem gates_setWoken (s : State) (a : Nat) (b : Bool) : (s.setWoken a b).gates = s.gates := by unfold State.setWoken; split <;> rfl
@[simp] theorem latches_setWoken (s : State) (a : Nat) (b : Bool) : (s.setWoken a b).latches = s.latches := by unfold State.setWoken; split <;> rfl
@[simp] theorem doubles_setWoken (s : State) (a : Nat) (b : Bool) : (s.setWoken a b).doubles = s.doubles := by unfold State.setWoken; split <;> rfl
@[simp] theorem pthreads_setWoken (s : State) (a : Nat) (b : Bool) : (s.setWoken a b).pthreads = s.pthreads := by unfold State.setWoken; split <;> rfl
@[simp] theorem threadsVec_setWoken (s : State) (a : Nat) (b : Bool) : (s.setWoken a b).threadsVec = s.threadsVec := by unfold State.setWoken; split <;> rfl
@[simp] theorem threadsLock_setWoken (s : State) (a : Nat) (b : Bool) : (s.setWoken a b).threadsLock = s.threadsLock := by unfold State.setWoken; split <;> rfl
@[simp] theorem schedule_setWoken (s : State) (a : Nat) (b : Bool) : (s.setWoken a b).schedule = s.schedule := by unfold State.setWoken; split <;> rfl
@[simp] theorem schedLock_setWoken (s : State) (a : Nat) (b : Bool) : (s.setWoken a b).schedLock = s.schedLock := by unfold State.setWoken; split <;> rfl
@[simp] theorem maxThreads_setWoken (s : State) (a : Nat) (b : Bool) : (s.setWoken a b).maxThreads = s.maxThreads := by unfold State.setWoken; split <;> rfl
@[simp] theorem readyLock_setWoken (s : State) (a : Nat) (b : Bool) : (s.setWoken a b).readyLock = s.readyLock := by unfold State.setWoken; split <;> rfl
@[simp] theorem ready_setWoken (s : State) (a : Nat) (b : Bool) : (s.setWoken a b).ready = s.ready := by unfold State.setWoken; split <;> rfl
@[simp] theorem opFut_setWoken (s : State) (a : Nat) (b : Bool) : (s.setWoken a b).opFut = s.opFut := by unfold State.setWoken; split <;> rfl
@[simp] theorem opSf_setWoken (s : State) (a : Nat) (b : Bool) : (s.setWoken a b).opSf = s.opSf := by unfold State.setWoken; split <;> rfl
@[simp] theorem sfs_setWoken (s : State) (a : Nat) (b : Bool) : (s.setWoken a b).sfs = s.sfs := by unfold State.setWoken; split <;> rfl
@[simp] theorem dropped_setWoken (s : State) (a : Nat) (b : Bool) : (s.setWoken a b).dropped = s.dropped := by unfold State.setWoken; split <;> rfl
@[simp] theorem parkToken_setWoken (s : State) (a : Nat) (b : Bool) : (s.setWoken a b).parkToken = s.parkToken := by unfold State.setWoken; split <;> rfl
@[simp] theorem taskWoken_setWoken (s : State) (a : Nat) (b : Bool) : (s.setWoken a b).taskWoken = s.taskWoken := by unfold State.setWoken; split <;> rfl
@[simp] theorem nextOp_setWoken (s : State) (a : Nat) (b : Bool) : (s.setWoken a b).nextOp = s.nextOp := by unfold State.setWoken; split <;> rfl
@[simp] theorem holder_setWoken (s : State) (a : Nat) (b : Bool) : (s.setWoken a b).holder = s.holder := by unfold State.setWoken; split <;> rfl

@[simp] theorem qs_notify (s : State) (w : Nat) : (s.notify w).qs = s.qs := by unfold State.notify; split <;> (try split) <;> rfl
@[simp] theorem jobs_notify (s : State) (w : Nat) : (s.notify w).jobs = s.jobs := by unfold State.notify; split <;> (try split) <;> rfl
@[simp] theorem futs_notify (s : State) (w : Nat) : (s.notify w).futs = s.futs := by unfold State.notify; split <;> (try split) <;> rfl
@[simp] theorem gates_notify (s : State) (w : Nat) : (s.notify w).gates = s.gates := by unfold State.notify; split <;> (try split) <;> rfl
@[simp] theorem latches_notify (s : State) (w : Nat) : (s.notify w).latches = s.latches := by unfold State.notify; split <;> (try split) <;> rfl
@[simp] theorem doubles_notify (s : State) (w : Nat) : (s.notify w).doubles = s.doubles := by unfold State.notify; split <;> (try split) <;> rfl
@[simp] theorem pthreads_notify (s : State) (w : Nat) : (s.notify w).pthreads = s.pthreads := by unfold State.notify; split <;> (try split) <;> rfl
@[simp] theorem threadsVec_notify (s : State) (w : Nat) : (s.notify w).threadsVec = s.threadsVec := by unfold State.notify; split <;> (try split) <;> rfl
@[simp] theorem threadsLock_notify (s : State) (w : Nat) : (s.notify w).threadsLock = s.threadsLock := by unfold State.notify; split <;> (try split) <;> rfl
@[simp] theorem schedule_notify (s : State) (w : Nat) : (s.notify w).schedule = s.schedule := by unfold State.notify; split <;> (try split) <;> rfl
@[simp] theorem schedLock_notify (s : State) (w : Nat) : (s.notify w).schedLock = s.schedLock := by unfold State.notify; split <;> (try split) <;> rfl
@[simp] theorem maxThreads_notify (s : State) (w : Nat) : (s.notify w).maxThreads = s.maxThreads := by unfold State.notify; split <;> (try split) <;> rfl
@[simp] theorem readyLock_notify (s : State) (w : Nat) : (s.notify w).readyLock = s.readyLock := by unfold State.notify; split <;> (try split) <;> rfl
@[simp] theorem ready_notify (s : State) (w : Nat) : (s.notify w).ready = s.ready := by unfold State.notify; split <;> (try split) <;> rfl
@[simp] theorem opFut_notify (s : State) (w : Nat) : (s.notify w).opFut = s.opFut := by unfold State.notify; split <;> (try split) <;> rfl
@[simp] theorem opSf_notify (s : State) (w : Nat) : (s.notify w).opSf = s.opSf := by unfold State.notify; split <;> (try split) <;> rfl
@[simp] theorem sfs_notify (s : State) (w : Nat) : (s.notify w).sfs = s.sfs := by unfold State.notify; split <;> (try split) <;> rfl
@[simp] theorem dropped_notify (s : State) (w : Nat) : (s.notify w).dropped = s.dropped := by unfold State.notify; split <;> (try split) <;> rfl
@[simp] theorem parkToken_notify (s : State) (w : Nat) : (s.notify w).parkToken = s.parkToken := by unfold State.notify; split <;> (try split) <;> rfl
@[simp] theorem taskWoken_notify (s : State) (w : Nat) : (s.notify w).taskWoken = s.taskWoken := by unfold State.notify; split <;> (try split) <;> rfl
@[simp] theorem nextOp_notify (s : State) (w : Nat) : (s.notify w).nextOp = s.nextOp := by unfold State.notify; split <;> (try split) <;> rfl
@[simp] theorem holder_notify (s : State) (w : Nat) : (s.notify w).holder = s.holder := by unfold State.notify; split <;> (try split) <;> rfl

@[simp] theorem jobs_setQState (s : State) (q : Nat) (st : QState) : (s.setQState q st).jobs = s.jobs := by unfold State.setQState; split <;> rfl
@[simp] theorem futs_setQState (s : State) (q : Nat) (st : QState) : (s.setQState q st).futs = s.futs := by unfold State.setQState; split <;> rfl
@[simp] theorem gates_setQState (s : State) (q : Nat) (st : QState) : (s.setQState q st).gates = s.gates := by unfold State.setQState; split <;> rfl
@[simp] theorem latches_setQState (s : State) (q : Nat) (st : QState) : (s.setQState q st).latches = s.latches := by unfold State.setQState; split <;> rfl
@[simp] theorem doubles_setQState (s : State) (q : Nat) (st : QState) : (s.setQState q st).doubles = s.doubles := by unfold State.setQState; split <;> rfl
@[simp] theorem pthreads_setQState (s : State) (q : Nat) (st : QState) : (s.setQState q st).pthreads = s.pthreads := by unfold State.setQState; split <;> rfl
@[simp] theorem threadsVec_setQState (s : State) (q : Nat) (st : QState) : (s.setQState q st).threadsVec = s.threadsVec := by unfold State.setQState; split <;> rfl
@[simp] theorem threadsLock_setQState (s : State) (q : Nat) (st : QState) : (s.setQState q st).threadsLock = s.threadsLock := by unfold State.setQState; split <;> rfl
@[simp] theorem schedule_setQState (s : State) (q : Nat) (st : QState) : (s.setQState q st).schedule = s.schedule := by unfold State.setQState; split <;> rfl
@[simp] theorem schedLock_setQState (s : State) (q : Nat) (st : QState) : (s.setQState q st).schedLock = s.schedLock := by unfold State.setQState; split <;> rfl
@[simp] theorem maxThreads_setQState (s : State) (q : Nat) (st : QState) : (s.setQState q st).maxThreads = s.maxThreads := by unfold State.setQState; split <;> rfl
@[simp] theorem readyLock_setQState (s : State) (q : Nat) (st : QState) : (s.setQState q st).readyLock = s.readyLock := by unfold State.setQState; split <;> rfl
@[simp] theorem ready_setQState (s : State) (q : Nat) (st : QState) : (s.setQState q st).ready = s.ready := by unfold State.setQState; split <;> rfl
@[simp] theorem opFut_setQState (s : State) (q : Nat) (st : QState) : (s.setQState q st).opFut = s.opFut := by unfold State.setQState; split <;> rfl
@[simp] theorem opSf_setQState (s : State) (q : Nat) (st : QState) : (s.setQState q st).opSf = s.opSf := by unfold State.setQState; split <;> rfl
@[simp] theorem sfs_setQState (s : State) (q : Nat) (st : QState) : (s.setQState q st).sfs = s.sfs := by unfold State.setQState; split <;> rfl
@[simp] theorem dropped_setQState (s : State) (q : Nat) (st : QState) : (s.setQState q st).dropped = s.dropped := by unfold State.setQState; split <;> rfl
@[simp] theorem parkToken_setQState (s : State) (q : Nat) (st : QState) : (s.setQState q st).parkToken = s.parkToken := by unfold State.setQState; split <;> rfl
@[simp] theorem taskWoken_setQState (s : State) (q : Nat) (st : QState) : (s.setQState q st).taskWoken = s.taskWoken := by unfold State.setQState; split <;> rfl
@[simp] theorem acts_setQState (s : State) (q : Nat) (st : QState) : (s.setQState q st).acts = s.acts := by unfold State.setQState; split <;> rfl
@[simp] theorem nextOp_setQState (s : State) (q : Nat) (st : QState) : (s.setQState q st).nextOp = s.nextOp := by unfold State.setQState; split <;> rfl
@[simp] theorem holder_setQState (s : State) (q : Nat) (st : QState) : (s.setQState q st).holder = s.holder := by unfold State.setQState; split <;> rfl

@[simp] theorem jobs_pushBack (s : State) (q j : Nat) : (s.pushBack q j).jobs = s.jobs := by unfold State.pushBack; split <;> rfl
@[simp] theorem futs_pushBack (s : State) (q j : Nat) : (s.pushBack q j).futs = s.futs := by unfold State.pushBack; split <;> rfl
@[simp] theorem gates_pushBack (s : State) (q j : Nat) : (s.pushBack q j).gates = s.gates := by unfold State.pushBack; split <;> rfl
@[simp] theorem latches_pushBack (s : State) (q j : Nat) : (s.pushBack q j).latches = s.latches := by unfold State.pushBack; split <;> rfl
@[simp] theorem doubles_pushBack (s : State) (q j : Nat) : (s.pushBack q j).doubles = s.doubles := by unfold State.pushBack; split <;> rfl
@[simp] theorem pthreads_pushBack (s : State) (q j : Nat) : (s.pushBack q j).pthreads = s.pthreads := by unfold State.pushBack; split <;> rfl
@[simp] theorem threadsVec_pushBack (s : State) (q j : Nat) : (s.pushBack q j).threadsVec = s.threadsVec := by unfold State.pushBack; split <;> rfl
@[simp] theorem threadsLock_pushBack (s : State) (q j : Nat) : (s.pushBack q j).threadsLock = s.threadsLock := by unfold State.pushBack; split <;> rfl
@[simp] theorem schedule_pushBack (s : State) (q j : Nat) : (s.pushBack q j).schedule = s.schedule := by unfold State.pushBack; split <;> rfl
@[simp] theorem schedLock_pushBack (s : State) (q j : Nat) : (s.pushBack q j).schedLock = s.schedLock := by unfold State.pushBack; split <;> rfl
@[simp] theorem maxThreads_pushBack (s : State) (q j : Nat) : (s.pushBack q j).maxThreads = s.maxThreads := by unfold State.pushBack; split <;> rfl
@[simp] theorem readyLock_pushBack (s : State) (q j : Nat) : (s.pushBack q j).readyLock = s.readyLock := by unfold State.pushBack; split <;> rfl
@[simp] theorem ready_pushBack (s : State) (q j : Nat) : (s.pushBack q j).ready = s.ready := by unfold State.pushBack; split <;> rfl
@[simp] theorem opFut_pushBack (s : State) (q j : Nat) : (s.pushBack q j).opFut = s.opFut := by unfold State.pushBack; split <;> rfl
@[simp] theorem opSf_pushBack (s : State) (q j : Nat) : (s.pushBack q j).opSf = s.opSf := by unfold State.pushBack; split <;> rfl
@[simp] theorem sfs_pushBack (s : State) (q j : Nat) : (s.pushBack q j).sfs = s.sfs := by unfold State.pushBack; split <;> rfl
@[simp] theorem dropped_pushBack (s : State) (q j : Nat) : (s.pushBack q j).dropped = s.dropped := by unfold State.pushBack; split <;> rfl
@[simp] theorem parkToken_pushBack (s : State) (q j : Nat) : (s.pushBack q j).parkToken = s.parkToken := by unfold State.pushBack; split <;> rfl
@[simp] theorem taskWoken_pushBack (s : State) (q j : Nat) : (s.pushBack q j).taskWoken = s.taskWoken := by unfold State.pushBack; split <;> rfl
@[simp] theorem acts_pushBack (s : State) (q j : Nat) : (s.pushBack q j).acts = s.acts := by unfold State.pushBack; split <;> rfl
@[simp] theorem nextOp_pushBack (s : State) (q j : Nat) : (s.pushBack q j).nextOp = s.nextOp := by unfold State.pushBack; split <;> rfl
@[simp] theorem holder_pushBack (s : State) (q j : Nat) : (s.pushBack q j).holder = s.holder := by unfold State.pushBack; split <;> rfl

@[simp] theorem jobs_pushFront (s : State) (q j : Nat) : (s.pushFront q j).jobs = s.jobs := by unfold State.pushFront; split <;> rfl
@[simp] theorem futs_pushFront (s : State) (q j : Nat) : (s.pushFront q j).futs = s.futs := by unfold State.pushFront; split <;> rfl
@[simp] theorem gates_pushFront (s : State) (q j : Nat) : (s.pushFront q j).gates = s.gates := by unfold State.pushFront; split <;> rfl
@[simp] theorem latches_pushFront (s : State) (q j : Nat) : (s.pushFront q j).latches = s.latches := by unfold State.pushFront; split <;> rfl
@[simp] theorem doubles_pushFront (s : State) (q j : Nat) : (s.pushFront q j).doubles = s.doubles := by unfold State.pushFront; split <;> rfl
@[simp] theorem pthreads_pushFront (s : State) (q j : Nat) : (s.pushFront q j).pthreads = s.pthreads := by unfold State.pushFront; split <;> rfl
@[simp] theorem threadsVec_pushFront (s : State) (q j : Nat) : (s.pushFront q j).threadsVec = s.threadsVec := by unfold State.pushFront; split <;> rfl
@[simp] theorem threadsLock_pushFront (s : State) (q j : Nat) : (s.pushFront q j).threadsLock = s.threadsLock := by unfold State.pushFront; split <;> rfl
@[simp] theorem schedule_pushFront (s : State) (q j : Nat) : (s.pushFront q j).schedule = s.schedule := by unfold State.pushFront; split <;> rfl
@[simp] theorem schedLock_pushFront (s : State) (q j : Nat) : (s.pushFront q j).schedLock = s.schedLock := by unfold State.pushFront; split <;> rfl
@[simp] theorem maxThreads_pushFront (s : State) (q j : Nat) : (s.pushFront q j).maxThreads = s.maxThreads := by unfold State.pushFront; split <;> rfl
@[simp] theorem readyLock_pushFront (s : State) (q j : Nat) : (s.pushFront q j).readyLock = s.readyLock := by unfold State.pushFront; split <;> rfl
@[simp] theorem ready_pushFront (s : State) (q j : Nat) : (s.pushFront q j).ready = s.ready := by unfold State.pushFront; split <;> rfl
@[simp] theorem opFut_pushFront (s : State) (q j : Nat) : (s.pushFront q j).opFut = s.opFut := by unfold State.pushFront; split <;> rfl
@[simp] theorem opSf_pushFront (s : State) (q j : Nat) : (s.pushFront q j).opSf = s.opSf := by unfold State.pushFront; split <;> rfl
@[simp] theorem sfs_pushFront (s : State) (q j : Nat) : (s.pushFront q j).sfs = s.sfs := by unfold State.pushFront; split <;> rfl
@[simp] theorem dropped_pushFront (s : State) (q j : Nat) : (s.pushFront q j).dropped = s.dropped := by unfold State.pushFront; split <;> rfl
@[simp] theorem parkToken_pushFront (s : State) (q j : Nat) : (s.pushFront q j).parkToken = s.parkToken := by unfold State.pushFront; split <;> rfl
@[simp] theorem taskWoken_pushFront (s : State) (q j : Nat) : (s.pushFront q j).taskWoken = s.taskWoken := by unfold State.pushFront; split <;> rfl
@[simp] theorem acts_pushFront (s : State) (q j : Nat) : (s.pushFront q j).acts = s.acts := by unfold State.pushFront; split <;> rfl
@[simp] theorem nextOp_pushFront (s : State) (q j : Nat) : (s.pushFront q j).nextOp = s.nextOp := by unfold State.pushFront; split <;> rfl
@[simp] theorem holder_pushFront (s : State) (q j : Nat) : (s.pushFront q j).holder = s.holder := by unfold State.pushFront; split <;> rfl

@[simp] theorem qs_setJobPh (s : State) (j : Nat) (ph : Phase) : (s.setJobPh j ph).qs = s.qs := by unfold State.setJobPh; split <;> rfl
@[simp] theorem futs_setJobPh (s : State) (j : Nat) (ph : Phase) : (s.setJobPh j ph).futs = s.futs := by unfold State.setJobPh; split <;> rfl
@[simp] theorem gates_setJobPh (s : State) (j : Nat) (ph : Phase) : (s.setJobPh j ph).gates = s.gates := by unfold State.setJobPh; split <;> rfl
@[simp] theorem latches_setJobPh (s : State) (j : Nat) (ph : Phase) : (s.setJobPh j ph).latches = s.latches := by unfold State.setJobPh; split <;> rfl
@[simp] theorem doubles_setJobPh (s : State) (j : Nat) (ph : Phase) : (s.setJobPh j ph).doubles = s.doubles := by unfold State.setJobPh; split <;> rfl
@[simp] theorem pthreads_setJobPh (s : State) (j : Nat) (ph : Phase) : (s.setJobPh j ph).pthreads = s.pthreads := by unfold State.setJobPh; split <;> rfl
@[simp] theorem threadsVec_setJobPh (s : State) (j : Nat) (ph : Phase) : (s.setJobPh j ph).threadsVec = s.threadsVec := by unfold State.setJobPh; split <;> rfl
@[simp] theorem threadsLock_setJobPh (s : State) (j : Nat) (ph : Phase) : (s.setJobPh j ph).threadsLock = s.threadsLock := by unfold State.setJobPh; split <;> rfl
@[simp] theorem schedule_setJobPh (s : State) (j : Nat) (ph : Phase) : (s.setJobPh j ph).schedule = s.schedule := by unfold State.setJobPh; split <;> rfl
@[simp] theorem schedLock_setJobPh (s : State) (j : Nat) (ph : Phase) : (s.setJobPh j ph).schedLock = s.schedLock := by unfold State.setJobPh; split <;> rfl
@[simp] theorem maxThreads_setJobPh (s : State) (j : Nat) (ph : Phase) : (s.setJobPh j ph).maxThreads = s.maxThreads := by unfold State.setJobPh; split <;> rfl
@[simp] theorem readyLock_setJobPh (s : State) (j : Nat) (ph : Phase) : (s.setJobPh j ph).readyLock = s.readyLock := by unfold State.setJobPh; split <;> rfl
@[simp] theorem ready_setJobPh (s : State) (j : Nat) (ph : Phase) : (s.setJobPh j ph).ready = s.ready := by unfold State.setJobPh; split <;> rfl
@[simp] theorem opFut_setJobPh (s : State) (j : Nat) (ph : Phase) : (s.setJobPh j ph).opFut = s.opFut := by unfold State.setJobPh; split <;> rfl
@[simp] theorem opSf_setJobPh (s : State) (j : Nat) (ph : Phase) : (s.setJobPh j ph).opSf = s.opSf := by unfold State.setJobPh; split <;> rfl
@[simp] theorem sfs_setJobPh (s : State) (j : Nat) (ph : Phase) : (s.setJobPh j ph).sfs = s.sfs := by unfold State.setJobPh; split <;> rfl
@[simp] theorem dropped_setJobPh (s : State) (j : Nat) (ph : Phase) : (s.setJobPh j ph).dropped = s.dropped := by unfold State.setJobPh; split <;> rfl
@[simp] theorem parkToken_setJobPh (s : State) (j : Nat) (ph : Phase) : (s.setJobPh j ph).parkToken = s.parkToken := by unfold State.setJobPh; split <;> rfl
@[simp] theorem taskWoken_setJobPh (s : State) (j : Nat) (ph : Phase) : (s.setJobPh j ph).taskWoken = s.taskWoken := by unfold State.setJobPh; split <;> rfl
@[simp] theorem acts_setJobPh (s : State) (j : Nat) (ph : Phase) : (s.setJobPh j ph).acts = s.acts := by unfold State.setJobPh; split <;> rfl
@[simp] theorem nextOp_setJobPh (s : State) (j : Nat) (ph : Phase) : (s.setJobPh j ph).nextOp = s.nextOp := by unfold State.setJobPh; split <;> rfl
@[simp] theorem holder_setJobPh (s : State) (j : Nat) (ph : Phase) : (s.setJobPh j ph).holder = s.holder := by unfold State.setJobPh; split <;> rfl

end Desync

namespace Desync

theorem acts_goto_self {s : State} {a : Nat} {act : Act} (pc : Pc) (ha : s.acts[a]? = some act) :
    (s.goto a pc).acts[a]? = some { act with pc := pc } := by
  have hlt : a < s.acts.length := by
    rcases List.getElem?_eq_some_iff.mp ha with ⟨h, _⟩; exact h
  unfold State.goto
  rw [ha]
  simp [State.setAct, hlt]

theorem acts_goto_ne {s : State} {a b : Nat} (pc : Pc) (h : a ≠ b) : (s.goto a pc).acts[b]? = s.acts[b]? := by
  unfold State.goto
  split
  · simp [State.setAct, h]
  · rfl

@[simp] theorem qs_setQ (s : State) (q : Nat) (v : JobQ) : (s.setQ q v).qs = s.qs.set q v := rfl
@[simp] theorem holder_setHolder (s : State) (q : Nat) (h : Option Nat) : (s.setHolder q h).holder = s.holder.set q h := rfl
@[simp] theorem pthreads_setPThr (s : State) (p : Nat) (v : PThr) : (s.setPThr p v).pthreads = s.pthreads.set p v := rfl
@[simp] theorem jobs_setJob (s : State) (j : Nat) (v : Job) : (s.setJob j v).jobs = s.jobs.set j v := rfl
@[simp] theorem futs_setFut (s : State) (f : Nat) (v : Fut) : (s.setFut f v).futs = s.futs.set f v := rfl
@[simp] theorem sfs_setSf (s : State) (u : Nat) (v : SyncFut) : (s.setSf u v).sfs = s.sfs.set u v := rfl

/-! `newJob` appends to `jobs`; `dequeue` writes `qs` and `jobs`. -/

@[simp] theorem newJob_snd (s : State) (q : Nat) (kind : JobKind) : (s.newJob q kind).2 = s.jobs.length := rfl
@[simp] theorem jobs_newJob (s : State) (q : Nat) (kind : JobKind) :
    (s.newJob q kind).1.jobs = s.jobs ++ [{ q := q, kind := kind, ph := .queued, begun := false, ended := false, reg := none }] := rfl
@[simp] theorem qs_newJob (s : State) (q : Nat) (kind : JobKind) : (s.newJob q kind).1.qs = s.qs := rfl
@[simp] theorem acts_newJob (s : State) (q : Nat) (kind : JobKind) : (s.newJob q kind).1.acts = s.acts := rfl
@[simp] theorem futs_newJob (s : State) (q : Nat) (k : JobKind) : (s.newJob q k).1.futs = s.futs := rfl
@[simp] theorem sfs_newJob (s : State) (q : Nat) (k : JobKind) : (s.newJob q k).1.sfs = s.sfs := rfl
@[simp] theorem latches_newJob (s : State) (q : Nat) (k : JobKind) : (s.newJob q k).1.latches = s.latches := rfl
@[simp] theorem doubles_newJob (s : State) (q : Nat) (k : JobKind) : (s.newJob q k).1.doubles = s.doubles := rfl
@[simp] theorem pthreads_newJob (s : State) (q : Nat) (k : JobKind) : (s.newJob q k).1.pthreads = s.pthreads := rfl
@[simp] theorem threadsVec_newJob (s : State) (q : Nat) (k : JobKind) : (s.newJob q k).1.threadsVec = s.threadsVec := rfl
@[simp] theorem threadsLock_newJob (s : State) (q : Nat) (k : JobKind) : (s.newJob q k).1.threadsLock = s.threadsLock := rfl
@[simp] theorem schedule_newJob (s : State) (q : Nat) (k : JobKind) : (s.newJob q k).1.schedule = s.schedule := rfl
@[simp] theorem maxThreads_newJob (s : State) (q : Nat) (k : JobKind) : (s.newJob q k).1.maxThreads = s.maxThreads := rfl
@[simp] theorem readyLock_newJob (s : State) (q : Nat) (k : JobKind) : (s.newJob q k).1.readyLock = s.readyLock := rfl
@[simp] theorem ready_newJob (s : State) (q : Nat) (kind : JobKind) : (s.newJob q kind).1.ready = s.ready := rfl

theorem State.dequeue_eq (s : State) (q a : Nat) : ∃ Q J, (s.dequeue q a).1 = { s with qs := Q, jobs := J } := by
  unfold State.dequeue
  split
  · split
    · split
      · unfold State.setJobPh
        split
        · exact ⟨_, _, rfl⟩
        · exact ⟨_, s.jobs, rfl⟩
      · exact ⟨s.qs, s.jobs, rfl⟩
    · exact ⟨s.qs, s.jobs, rfl⟩
  · exact ⟨s.qs, s.jobs, rfl⟩
theorem dequeue_acts (s : State) (q a : Nat) : (s.dequeue q a).1.acts = s.acts := by
  obtain ⟨Q, J, e⟩ := s.dequeue_eq q a; rw [e]
theorem dequeue_holder (s : State) (q a : Nat) : (s.dequeue q a).1.holder = s.holder := by
  obtain ⟨Q, J, e⟩ := s.dequeue_eq q a; rw [e]
@[simp] theorem futs_dequeue (s : State) (q a : Nat) : (s.dequeue q a).1.futs = s.futs := by
  obtain ⟨Q, J, e⟩ := s.dequeue_eq q a; rw [e]
@[simp] theorem sfs_dequeue (s : State) (q a : Nat) : (s.dequeue q a).1.sfs = s.sfs := by
  obtain ⟨Q, J, e⟩ := s.dequeue_eq q a; rw [e]
@[simp] theorem latches_dequeue (s : State) (q a : Nat) : (s.dequeue q a).1.latches = s.latches := by
  obtain ⟨Q, J, e⟩ := s.dequeue_eq q a; rw [e]
@[simp] theorem doubles_dequeue (s : State) (q a : Nat) : (s.dequeue q a).1.doubles = s.doubles := by
  obtain ⟨Q, J, e⟩ := s.dequeue_eq q a; rw [e]
@[simp] theorem pthreads_dequeue (s : State) (q a : Nat) : (s.dequeue q a).1.pthreads = s.pthreads := by
  obtain ⟨Q, J, e⟩ := s.dequeue_eq q a; rw [e]
@[simp] theorem threadsVec_dequeue (s : State) (q a : Nat) : (s.dequeue q a).1.threadsVec = s.threadsVec := by
  obtain ⟨Q, J, e⟩ := s.dequeue_eq q a; rw [e]
@[simp] theorem threadsLock_dequeue (s : State) (q a : Nat) : (s.dequeue q a).1.threadsLock = s.threadsLock := by
  obtain ⟨Q, J, e⟩ := s.dequeue_eq q a; rw [e]
@[simp] theorem schedule_dequeue (s : State) (q a : Nat) : (s.dequeue q a).1.schedule = s.schedule := by
  obtain ⟨Q, J, e⟩ := s.dequeue_eq q a; rw [e]
@[simp] theorem maxThreads_dequeue (s : State) (q a : Nat) : (s.dequeue q a).1.maxThreads = s.maxThreads := by
  obtain ⟨Q, J, e⟩ := s.dequeue_eq q a; rw [e]
@[simp] theorem readyLock_dequeue (s : State) (q a : Nat) : (s.dequeue q a).1.readyLock = s.readyLock := by
  obtain ⟨Q, J, e⟩ := s.dequeue_eq q a; rw [e]
@[simp] theorem ready_dequeue (s : State) (q a : Nat) : (s.dequeue q a).1.ready = s.ready := by
  obtain ⟨Q, J, e⟩ := s.dequeue_eq q a; rw [e]

end Desync
