/- A structural fact read from /repo/src by the translator (Generated.lean), kept in its own module so that only the properties that rely on it depend on it. -/
import DesyncModel.Types
import DesyncModel.Generated

namespace Desync
open Gen

theorem queueOps_only_fifo : queueOps = queueOpsExpected := rfl

end Desync
