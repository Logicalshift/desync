/- A structural fact read from /repo/src by the translator (Generated.lean), kept in its own module so that only the properties that rely on it depend on it. -/
import DesyncModel.Types
import DesyncModel.Generated

namespace Desync
open Gen

/-- A runner that gives a queue up writes `Idle` whatever the state has become in the meantime (`sync_immediate`, `sync_drain`, the
steal branch of `sync_background`, `SchedulerFuture::drain_queue`): the model's `siIdle`, `sdIdle`, `sbStealIdle`, `dqIdle` steps
are unconditional writes followed by `reschedule_queue`.  A hand-back nested in a test of the state (say, "only if still
`Running`") leaves a queue that was woken while it ran in `AwokenWhileRunning` with nobody running it. -/
theorem hand_backs_are_unconditional : stateConditionalHandBacks = [] := rfl

end Desync
