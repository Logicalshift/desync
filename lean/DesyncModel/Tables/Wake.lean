/-
Table obligations (wakers and latches): facts about the generated decision tables (Generated.lean, rewritten
from /repo/src on every run) that the proofs use.
-/
import DesyncModel.Types
import DesyncModel.Generated

namespace Desync
open Gen

/-! ### a wake-up is never lost by a table (C06) -/

theorem wake_while_running_is_remembered :
    (wakeQueue .running).1 = .awokenWhileRunning ∧ wakeThread .running = .awokenWhileRunning ∧
    (wakeQueue .awokenWhileRunning).1 = .awokenWhileRunning ∧ wakeThread .awokenWhileRunning = .awokenWhileRunning :=
  ⟨rfl, rfl, rfl, rfl⟩

/-- A remembered wake is consumed by polling again, never by parking. -/
theorem remembered_wake_repolls :
    drainPending .awokenWhileRunning = (.running, false) ∧ runOnePending .awokenWhileRunning = (.running, .continue) ∧
    parkCheck .awokenWhileRunning = .continue ∧ parkCheck .running = .continue :=
  ⟨rfl, rfl, rfl, rfl⟩

/-- Parking: pool drain parks as `waitingForWake` and returns; a caller parks as `waitingForUnpark`. -/
theorem parking_states :
    drainPending .running = (.waitingForWake, true) ∧ runOnePending .running = (.waitingForUnpark, .park) ∧
    parkCheck .waitingForUnpark = .park :=
  ⟨rfl, rfl, rfl⟩

/-- Waking a parked queue: pool-parked → idle + reschedule; caller-parked → running (+ unpark). -/
theorem wake_parked :
    wakeQueue .waitingForWake = (.idle, true) ∧ wakeThread .waitingForUnpark = .running ∧ wakeThreadUnparks = true ∧
    (∀ f, wakeQueue (.waitingForPoll f) = (.waitingForPoll f, true)) ∧
    (∀ f e, reschedule (.waitingForPoll f) e = (.waitingForPoll f, true)) ∧
    (∀ f, nextToRun (.waitingForPoll f) = (.running, true)) := by
  refine ⟨rfl, rfl, rfl, fun _ => rfl, ?_, fun _ => rfl⟩
  intro f e; cases e <;> rfl

/-- A stale queue waker must not disturb a caller-side park. -/
theorem wakeQueue_leaves_unpark : wakeQueue .waitingForUnpark = (.waitingForUnpark, false) := rfl

/-- The `DrainWaker` latch: a wake that arrives before the real waker is installed fires it at
installation; a wake after installation fires the stored waker; nothing fires twice. -/
theorem latch_spec :
    latchWakeWith .woken = (.woken, true) ∧ latchWakeWith .notWoken = (.willWake, false) ∧
    latchWakeWith .willWake = (.willWake, false) ∧
    latchWake .notWoken = (.woken, false) ∧ latchWake .willWake = (.woken, true) ∧ latchWake .woken = (.woken, false) :=
  ⟨rfl, rfl, rfl, rfl, rfl, rfl⟩

end Desync
