/-
Table obligations (the pool): facts about the generated decision tables (Generated.lean, rewritten
from /repo/src on every run) that the proofs use.
-/
import DesyncModel.Types
import DesyncModel.Generated

namespace Desync
open Gen

theorem spawn_only_below_max (len max : Nat) : spawnAllowed len max = true ↔ len < max := by
  simp [spawnAllowed]

theorem despawn_down_to_max (len max : Nat) : despawnContinues len max = true ↔ max < len := by
  simp [despawnContinues]

/-- The dormant scan waits for a thread's busy flag (a held flag is not mistaken for "busy"). -/
theorem dormant_scan_blocks : dormantScanBlocks = true := rfl
theorem dormant_reaps_first : dormantReapsFirst = true := rfl

end Desync
