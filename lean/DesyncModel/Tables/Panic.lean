/-
Table obligations (is_running; entry points refuse a panicked queue): facts about the generated decision tables (Generated.lean, rewritten
from /repo/src on every run) that the proofs use.
-/
import DesyncModel.Types
import DesyncModel.Generated

namespace Desync
open Gen

theorem isRunning_spec (s : QState) :
    isRunning s = true ↔ (s = .running ∨ s = .awokenWhileRunning ∨ s = .waitingForUnpark ∨ ∃ f, s = .waitingForPoll f) := by
  cases s <;> simp [isRunning]

/-! ### entry points refuse a panicked queue (C15) -/

theorem desyncPush_panicked : desyncPush .panicked = (.panicked, .panic) := rfl
theorem syncDecide_panicked (e : Bool) : syncDecide .panicked e = (.panicked, .panic) := by cases e <;> rfl
theorem trySyncDecide_panicked (e : Bool) : trySyncDecide .panicked e = (.panicked, .panic) := by cases e <;> rfl
theorem pollDecide_panicked (self : Nat) : (pollDecide self .panicked).2.1 = .panic ∧ (pollDecide self .panicked).1 = .panicked := ⟨rfl, rfl⟩
/-- `sync_no_panic` (Drop while unwinding) neither runs, blocks nor panics on a panicked queue. -/
theorem syncNoPanic_panicked (e : Bool) : syncNoPanicDecide .panicked e = (.panicked, .refuse) := by cases e <;> rfl

/-- Only a panicked queue makes an entry point panic. -/
theorem desyncPush_panics_iff (s : QState) : (desyncPush s).2 = .panic ↔ s = .panicked := by
  cases s <;> simp [desyncPush]
theorem syncDecide_panics_iff (s : QState) (e : Bool) : (syncDecide s e).2 = .panic ↔ s = .panicked := by
  cases s <;> cases e <;> simp [syncDecide]
theorem trySyncDecide_panics_iff (s : QState) (e : Bool) : (trySyncDecide s e).2 = .panic ↔ s = .panicked := by
  cases s <;> cases e <;> simp [trySyncDecide]
theorem pollDecide_panics_iff (self : Nat) (s : QState) : (pollDecide self s).2.1 = .panic ↔ s = .panicked := by
  cases s <;> simp [pollDecide]
  split <;> simp

/-- No table ever leaves the panicked state: it is absorbing. -/
theorem panicked_absorbing :
    (desyncPush .panicked).1 = .panicked ∧ (∀ e, (syncDecide .panicked e).1 = .panicked) ∧
    (∀ e, (syncNoPanicDecide .panicked e).1 = .panicked) ∧ (∀ e, (trySyncDecide .panicked e).1 = .panicked) ∧
    (∀ f, (pollDecide f .panicked).1 = .panicked) ∧ (claim .panicked).1 = .panicked ∧
    (∀ e, (reschedule .panicked e).1 = .panicked) ∧ (nextToRun .panicked).1 = .panicked ∧
    (drainPending .panicked).1 = .panicked ∧ (∀ e, (drainExit .panicked e).1 = .panicked) ∧
    (wakeQueue .panicked).1 = .panicked ∧ wakeThread .panicked = .panicked := by
  refine ⟨rfl, ?_, ?_, ?_, ?_, rfl, ?_, rfl, rfl, ?_, rfl, rfl⟩ <;> intro e <;> cases e <;> rfl

/-- Nothing is claimed, scheduled or run from a panicked queue. -/
theorem panicked_never_claimed :
    (claim .panicked).2 = false ∧ (nextToRun .panicked).2 = false ∧ (∀ e, (reschedule .panicked e).2 = false) := by
  refine ⟨rfl, rfl, ?_⟩; intro e; cases e <;> rfl

end Desync
