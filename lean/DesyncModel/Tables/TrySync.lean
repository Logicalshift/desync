/-
Table obligations (try_sync): facts about the generated decision tables (Generated.lean, rewritten
from /repo/src on every run) that the proofs use.
-/
import DesyncModel.Types
import DesyncModel.Generated

namespace Desync
open Gen

/-- `try_sync`: runs only when idle and empty; otherwise Busy and the state is untouched (C09). -/
theorem trySync_immediate_iff (s : QState) (e : Bool) :
    (trySyncDecide s e).2 = .immediate ↔ (s = .idle ∧ e = true) := by
  cases s <;> cases e <;> simp [trySyncDecide]

theorem trySync_immediate_running (s : QState) (e : Bool) :
    (trySyncDecide s e).2 = .immediate → (trySyncDecide s e).1 = .running := by
  cases s <;> cases e <;> simp [trySyncDecide]

theorem trySync_busy_undisturbed (s : QState) (e : Bool) :
    (trySyncDecide s e).2 = .busy → (trySyncDecide s e).1 = s := by
  cases s <;> cases e <;> simp [trySyncDecide]

theorem trySync_never_waits (s : QState) (e : Bool) :
    (trySyncDecide s e).2 = .immediate ∨ (trySyncDecide s e).2 = .busy ∨ (trySyncDecide s e).2 = .panic := by
  cases s <;> cases e <;> simp [trySyncDecide]

end Desync
