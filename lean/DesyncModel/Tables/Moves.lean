/-
How the decision tables move a queue's state word.  A table is applied in one of four roles, and in each the moves are few:
a scheduling call or a hand-back (`schedules`), a wake-up or the drop of the designated poller (`wakes`) — both in passing, by an
activity that does not get the queue's run right from the table —, an entry point, which grants the run right from a `grantable`
state or leaves the word alone, and the owner of the run right (`owns`).  An invariant about state words needs one fact per role,
not one per table.
-/
import DesyncModel.Generated
namespace Desync
open Gen

/-- finding work for an idle queue -/
def QState.schedules (st st' : QState) : Bool :=
  st' == st || match st, st' with
    | .idle, .pending => true
    | _, _ => false

/-- a wake-up reaches a queue the pool has parked (it is rescheduled next), is remembered during the poll, or reaches a queue a sync
caller has parked (the caller is unparked next); the designated poller is dropped -/
def QState.wakes (st st' : QState) : Bool :=
  st' == st || match st, st' with
    | .waitingForWake, .idle => true
    | .running, .awokenWhileRunning => true
    | .waitingForUnpark, .running => true
    | .waitingForPoll _, .idle => true
    | _, _ => false

/-- the owner parks the queue (for the pool, for itself), takes note of a remembered wake-up, or leaves the queue idle -/
def QState.owns (st st' : QState) : Bool :=
  st' == st || match st, st' with
    | .running, .waitingForWake => true
    | .running, .waitingForUnpark => true
    | .awokenWhileRunning, .running => true
    | .running, .idle | .awokenWhileRunning, .idle | .waitingForUnpark, .idle | .waitingForPoll _, .idle => true
    | _, _ => false

/-- the states from which an entry table grants the run right: the `claimable` ones (Types.lean: what `sync` may claim at once), and
`waitingForPoll`, which the poll of the designated future and `next_to_run` take over -/
def QState.grantable : QState → Bool
  | .idle | .pending | .waitingForPoll _ => true
  | _ => false

theorem desyncPush_schedules (st : QState) : st.schedules (desyncPush st).1 = true := by cases st <;> simp [desyncPush, QState.schedules]
theorem reschedule_schedules (st : QState) (e : Bool) : st.schedules (reschedule st e).1 = true := by
  cases st <;> cases e <;> simp [reschedule, QState.schedules]
theorem wakeQueue_wakes (st : QState) : st.wakes (wakeQueue st).1 = true := by cases st <;> simp [wakeQueue, QState.wakes]
theorem wakeThread_wakes (st : QState) : st.wakes (wakeThread st) = true := by cases st <;> simp [wakeThread, QState.wakes]
theorem futureDropDecide_wakes (self : Nat) (st : QState) : st.wakes (futureDropDecide self st).1 = true := by
  cases st <;> simp [futureDropDecide, QState.wakes]
  split <;> simp
theorem drainPending_owns (st : QState) : st.owns (drainPending st).1 = true := by cases st <;> simp [drainPending, QState.owns]
theorem drainExit_owns (st : QState) (e : Bool) : st.owns (drainExit st e).1 = true := by cases st <;> cases e <;> simp [drainExit, QState.owns]
theorem runOnePending_owns (st : QState) : st.owns (runOnePending st).1 = true := by cases st <;> simp [runOnePending, QState.owns]

theorem syncDecide_entry (st : QState) (e : Bool) :
    if (syncDecide st e).2 = .immediate ∨ (syncDecide st e).2 = .drain then st.grantable = true ∧ (syncDecide st e).1 = .running
    else (syncDecide st e).1 = st := by
  cases st <;> cases e <;> simp [syncDecide, QState.grantable]
/-- `sync_no_panic`'s table.  No step of the model applies it (`Drop for Desync` is modelled through `syncDecide`, with which it
agrees off `panicked`: `Tables/Sync.syncNoPanic_agrees`), so this lemma and the `syncNoPanicDecide_*` lemmas beside the invariants
serve no step case; they say that the invariants' facts about `syncDecide` hold of this table too. -/
theorem syncNoPanicDecide_entry (st : QState) (e : Bool) :
    if (syncNoPanicDecide st e).2 = .immediate ∨ (syncNoPanicDecide st e).2 = .drain then st.grantable = true ∧ (syncNoPanicDecide st e).1 = .running
    else (syncNoPanicDecide st e).1 = st := by
  cases st <;> cases e <;> simp [syncNoPanicDecide, QState.grantable]
theorem trySyncDecide_entry (st : QState) (e : Bool) :
    if (trySyncDecide st e).2 = .immediate then st.grantable = true ∧ (trySyncDecide st e).1 = .running else (trySyncDecide st e).1 = st := by
  cases st <;> cases e <;> simp [trySyncDecide, QState.grantable]
theorem claim_entry (st : QState) : if (claim st).2 = true then st.grantable = true ∧ (claim st).1 = .running else (claim st).1 = st := by
  cases st <;> simp [claim, QState.grantable]
theorem nextToRun_entry (st : QState) : if (nextToRun st).2 = true then st.grantable = true ∧ (nextToRun st).1 = .running else (nextToRun st).1 = st := by
  cases st <;> simp [nextToRun, QState.grantable]
theorem pollDecide_entry (self : Nat) (st : QState) :
    if (pollDecide self st).2.1 = .drain then st.grantable = true ∧ (pollDecide self st).1 = .running else (pollDecide self st).1 = st := by
  cases st <;> simp [pollDecide, QState.grantable]
  split <;> simp

/-- so a word other than `running` that an entry table leaves behind is the word it found -/
theorem entry_eq {c : Prop} [Decidable c] {st st' x : QState} (e : if c then st.grantable = true ∧ st' = .running else st' = st)
    (hx : x ≠ .running) (hp : st' = x) : st = x := by
  split at e
  · exact absurd (hp.symm.trans e.2) hx
  · exact e ▸ hp

end Desync
