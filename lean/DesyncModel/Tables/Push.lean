/-
Table obligations (queuing a job; handing the queue back): facts about the generated decision tables (Generated.lean, rewritten
from /repo/src on every run) that the proofs use.
-/
import DesyncModel.Types
import DesyncModel.Generated

namespace Desync
open Gen

/-! ### queuing a job (C03) -/

theorem desyncPush_spec (s : QState) :
    ((desyncPush s).2 = .schedule ↔ s = .idle) ∧ (s = .idle → (desyncPush s).1 = .pending) ∧
    (s ≠ .idle → (desyncPush s).1 = s) := by
  cases s <;> simp [desyncPush]

/-! ### handing the queue back (C03, C04) -/

theorem reschedule_spec (s : QState) (e : Bool) :
    (s = .idle ∧ e = false → reschedule s e = (.pending, true)) ∧
    (s = .idle ∧ e = true → reschedule s e = (.idle, false)) ∧
    ((reschedule s e).2 = true → (s = .idle ∧ e = false) ∨ ∃ f, s = .waitingForPoll f) ∧
    (s ≠ .idle → (reschedule s e).1 = s) := by
  cases s <;> cases e <;> simp [reschedule]

theorem drainExit_spec (s : QState) (e : Bool) :
    (isRunning s = true ∧ e = true → drainExit s e = (.idle, true)) ∧
    (isRunning s = true ∧ e = false → drainExit s e = (s, false)) := by
  cases s <;> cases e <;> simp [drainExit, isRunning]

end Desync
