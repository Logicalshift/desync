/-
Table obligations (claiming the run right; dequeue): facts about the generated decision tables (Generated.lean, rewritten
from /repo/src on every run) that the proofs use.
-/
import DesyncModel.Types
import DesyncModel.Generated

namespace Desync
open Gen

/-- `claim_pending_queue` -/
theorem claim_spec (s : QState) :
    ((claim s).2 = true → s.claimable = true ∧ (claim s).1 = .running) ∧
    ((claim s).2 = false → (claim s).1 = s) ∧ (s.claimable = true → (claim s).2 = true) := by
  cases s <;> simp [claim, QState.claimable]

/-- `next_to_run`: a pool thread takes a queue only if it is pending, or parked under a polling
task (`waitingForPoll`: the race arm); it then marks it running. Other entries are dropped unchanged. -/
theorem nextToRun_spec (s : QState) :
    ((nextToRun s).2 = true → (s = .pending ∨ ∃ f, s = .waitingForPoll f) ∧ (nextToRun s).1 = .running) ∧
    ((nextToRun s).2 = false → (nextToRun s).1 = s) ∧
    (s = .pending → (nextToRun s).2 = true) := by
  cases s <;> simp [nextToRun]

/-- `SchedulerFuture::poll`: the polling task starts draining only from idle, pending, or its OWN
`waitingForPoll`; it then marks the queue running and does not store its waker; in all other
(non-panicked) states it stores the waker and waits, leaving the state alone. -/
theorem pollDecide_spec (self : Nat) (s : QState) :
    ((pollDecide self s).2.1 = .drain → (s.claimable = true ∨ s = .waitingForPoll self) ∧ (pollDecide self s).1 = .running
        ∧ (pollDecide self s).2.2 = false) ∧
    ((pollDecide self s).2.1 = .wait → (pollDecide self s).1 = s ∧ (pollDecide self s).2.2 = true ∧ s.owned = true) := by
  cases s <;> simp [pollDecide, QState.claimable, QState.owned]
  split <;> simp_all

theorem pollDecide_other_waits (self f : Nat) (h : f ≠ self) :
    pollDecide self (.waitingForPoll f) = (.waitingForPoll f, .wait, true) := by
  simp [pollDecide, h]

/-! ### jobs are taken from the front only while the queue is not parked (C01, C02) -/

theorem dequeue_refuses_parked (s : QState) :
    dequeueAllowed s = false ↔ (s = .waitingForWake ∨ s = .waitingForUnpark ∨ ∃ f, s = .waitingForPoll f) := by
  cases s <;> simp [dequeueAllowed]

end Desync
