/-
Table obligations (sync / sync_no_panic): facts about the generated decision tables (Generated.lean, rewritten
from /repo/src on every run) that the proofs use.
-/
import DesyncModel.Types
import DesyncModel.Generated

namespace Desync
open Gen

/-! ### the run right is handed out only from unowned states (C01) -/

/-- `sync` starts running the queue on the caller (immediate / drain) only from idle or pending,
and then marks it running; in every other state it leaves the state alone and waits. -/
theorem syncDecide_claims (s : QState) (e : Bool) :
    ((syncDecide s e).2 = .immediate ∨ (syncDecide s e).2 = .drain) →
      s.claimable = true ∧ (syncDecide s e).1 = .running := by
  cases s <;> cases e <;> simp [syncDecide, QState.claimable]

theorem syncDecide_background_unchanged (s : QState) (e : Bool) :
    (syncDecide s e).2 = .background → (syncDecide s e).1 = s ∧ s.owned = true := by
  cases s <;> cases e <;> simp [syncDecide, QState.owned]

theorem syncDecide_total (s : QState) (e : Bool) :
    (syncDecide s e).2 = .immediate ∨ (syncDecide s e).2 = .drain ∨ (syncDecide s e).2 = .background ∨ (syncDecide s e).2 = .panic := by
  cases s <;> cases e <;> simp [syncDecide]

/-- Immediate execution (no job queued) only when the queue is idle AND empty (C02). -/
theorem syncDecide_immediate_iff (s : QState) (e : Bool) :
    (syncDecide s e).2 = .immediate ↔ (s = .idle ∧ e = true) := by
  cases s <;> cases e <;> simp [syncDecide]

theorem syncNoPanic_agrees (s : QState) (e : Bool) (h : s ≠ .panicked) : syncNoPanicDecide s e = syncDecide s e := by
  cases s <;> cases e <;> simp_all [syncDecide, syncNoPanicDecide]

end Desync
