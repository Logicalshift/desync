/-
The internal steps as rules: `Step s a act s'` has one rule per branch of `stepAct`, with the branch's
conditions as premises and the post-state written out.  `Step.of_stepAct` is the only place where the
function `stepAct` itself is taken apart; every invariant is proved by cases on `Step`.

Every rule's first premise is `act.pc = …`; the look-ups follow in the order in which `stepAct` makes them, the outcome of a
decision table comes last.  In `case r x₁ … xₙ =>` the names go to the LAST n of the rule's implicit arguments and premises, so
in an alternation `case r1 … | r2 … =>` a premise must stand at the same distance from the end in every rule that is named.
-/
import DesyncModel.Step

namespace Desync
open Gen

/-- has the event a future job waits for at its await point happened? (the `ready` of `jobAwait`) -/
def State.awaited (s : State) : JobKind → Bool
  | .fut op (some g) _ => s.gateReady g op
  | .fut _ none _ => true
  | .after op g _ => s.gateReady g op
  | .susp op g _ _ => s.gateReady g op
  | .slot u _ => s.sfDone u
  | _ => true

/-- the closure of a future job is invoked: its gate future is created and registers with a closed gate -/
def State.regGate (s : State) (gate : Option Nat) (op : Nat) : State :=
  match gate with
  | some g => match s.gates[g]? with
    | some gt => if gt.isOpen then s else s.setGate g { gt with waiting := gt.waiting ++ [op] }
    | none => s
  | none => s

/-- registering changes nothing, or appends `op` to the waiting list of a closed gate -/
theorem State.regGate_cases (s : State) (gate : Option Nat) (op : Nat) :
    s.regGate gate op = s ∨ ∃ g gt, s.gates[g]? = some gt ∧ s.regGate gate op = s.setGate g { gt with waiting := gt.waiting ++ [op] } := by
  cases gate with
  | none => exact .inl rfl
  | some g =>
    cases hg : s.gates[g]? with
    | none => exact .inl (by simp [State.regGate, hg])
    | some gt =>
      by_cases ho : gt.isOpen = true
      · exact .inl (by simp [State.regGate, hg, ho])
      · exact .inr ⟨g, gt, hg, by simp [State.regGate, hg, ho]⟩


/-! registering with a gate touches the gates only -/
@[simp] theorem qs_regGate (s : State) (gate : Option Nat) (op : Nat) : (s.regGate gate op).qs = s.qs := by
  rcases s.regGate_cases gate op with h | ⟨g, gt, -, h⟩ <;> rw [h]; rfl
@[simp] theorem jobs_regGate (s : State) (gate : Option Nat) (op : Nat) : (s.regGate gate op).jobs = s.jobs := by
  rcases s.regGate_cases gate op with h | ⟨g, gt, -, h⟩ <;> rw [h]; rfl
@[simp] theorem futs_regGate (s : State) (gate : Option Nat) (op : Nat) : (s.regGate gate op).futs = s.futs := by
  rcases s.regGate_cases gate op with h | ⟨g, gt, -, h⟩ <;> rw [h]; rfl
@[simp] theorem latches_regGate (s : State) (gate : Option Nat) (op : Nat) : (s.regGate gate op).latches = s.latches := by
  rcases s.regGate_cases gate op with h | ⟨g, gt, -, h⟩ <;> rw [h]; rfl
@[simp] theorem doubles_regGate (s : State) (gate : Option Nat) (op : Nat) : (s.regGate gate op).doubles = s.doubles := by
  rcases s.regGate_cases gate op with h | ⟨g, gt, -, h⟩ <;> rw [h]; rfl
@[simp] theorem pthreads_regGate (s : State) (gate : Option Nat) (op : Nat) : (s.regGate gate op).pthreads = s.pthreads := by
  rcases s.regGate_cases gate op with h | ⟨g, gt, -, h⟩ <;> rw [h]; rfl
@[simp] theorem threadsVec_regGate (s : State) (gate : Option Nat) (op : Nat) : (s.regGate gate op).threadsVec = s.threadsVec := by
  rcases s.regGate_cases gate op with h | ⟨g, gt, -, h⟩ <;> rw [h]; rfl
@[simp] theorem threadsLock_regGate (s : State) (gate : Option Nat) (op : Nat) : (s.regGate gate op).threadsLock = s.threadsLock := by
  rcases s.regGate_cases gate op with h | ⟨g, gt, -, h⟩ <;> rw [h]; rfl
@[simp] theorem schedule_regGate (s : State) (gate : Option Nat) (op : Nat) : (s.regGate gate op).schedule = s.schedule := by
  rcases s.regGate_cases gate op with h | ⟨g, gt, -, h⟩ <;> rw [h]; rfl
@[simp] theorem schedLock_regGate (s : State) (gate : Option Nat) (op : Nat) : (s.regGate gate op).schedLock = s.schedLock := by
  rcases s.regGate_cases gate op with h | ⟨g, gt, -, h⟩ <;> rw [h]; rfl
@[simp] theorem maxThreads_regGate (s : State) (gate : Option Nat) (op : Nat) : (s.regGate gate op).maxThreads = s.maxThreads := by
  rcases s.regGate_cases gate op with h | ⟨g, gt, -, h⟩ <;> rw [h]; rfl
@[simp] theorem readyLock_regGate (s : State) (gate : Option Nat) (op : Nat) : (s.regGate gate op).readyLock = s.readyLock := by
  rcases s.regGate_cases gate op with h | ⟨g, gt, -, h⟩ <;> rw [h]; rfl
@[simp] theorem ready_regGate (s : State) (gate : Option Nat) (op : Nat) : (s.regGate gate op).ready = s.ready := by
  rcases s.regGate_cases gate op with h | ⟨g, gt, -, h⟩ <;> rw [h]; rfl
@[simp] theorem opFut_regGate (s : State) (gate : Option Nat) (op : Nat) : (s.regGate gate op).opFut = s.opFut := by
  rcases s.regGate_cases gate op with h | ⟨g, gt, -, h⟩ <;> rw [h]; rfl
@[simp] theorem opSf_regGate (s : State) (gate : Option Nat) (op : Nat) : (s.regGate gate op).opSf = s.opSf := by
  rcases s.regGate_cases gate op with h | ⟨g, gt, -, h⟩ <;> rw [h]; rfl
@[simp] theorem sfs_regGate (s : State) (gate : Option Nat) (op : Nat) : (s.regGate gate op).sfs = s.sfs := by
  rcases s.regGate_cases gate op with h | ⟨g, gt, -, h⟩ <;> rw [h]; rfl
@[simp] theorem dropped_regGate (s : State) (gate : Option Nat) (op : Nat) : (s.regGate gate op).dropped = s.dropped := by
  rcases s.regGate_cases gate op with h | ⟨g, gt, -, h⟩ <;> rw [h]; rfl
@[simp] theorem parkToken_regGate (s : State) (gate : Option Nat) (op : Nat) : (s.regGate gate op).parkToken = s.parkToken := by
  rcases s.regGate_cases gate op with h | ⟨g, gt, -, h⟩ <;> rw [h]; rfl
@[simp] theorem taskWoken_regGate (s : State) (gate : Option Nat) (op : Nat) : (s.regGate gate op).taskWoken = s.taskWoken := by
  rcases s.regGate_cases gate op with h | ⟨g, gt, -, h⟩ <;> rw [h]; rfl
@[simp] theorem acts_regGate (s : State) (gate : Option Nat) (op : Nat) : (s.regGate gate op).acts = s.acts := by
  rcases s.regGate_cases gate op with h | ⟨g, gt, -, h⟩ <;> rw [h]; rfl
@[simp] theorem nextOp_regGate (s : State) (gate : Option Nat) (op : Nat) : (s.regGate gate op).nextOp = s.nextOp := by
  rcases s.regGate_cases gate op with h | ⟨g, gt, -, h⟩ <;> rw [h]; rfl
@[simp] theorem holder_regGate (s : State) (gate : Option Nat) (op : Nat) : (s.regGate gate op).holder = s.holder := by
  rcases s.regGate_cases gate op with h | ⟨g, gt, -, h⟩ <;> rw [h]; rfl

/-- the activity record of a fresh pool thread -/
def poolAct (p : Nat) : Act :=
  { thread := 1000 + p, pc := .ptRecv p, parent := none, child := none, woken := false, result := none, mode := .await, once := false }

inductive Step (s : State) (a : Nat) (act : Act) : State → Prop
  -- closures
  | beginUser {op k} : act.pc = .begin (.user op) k → Step s a act (s.goto a (.body op k))
  | beginFree {q k} : act.pc = .begin (.free q) k → Step s a act (({ s with dropped := q :: s.dropped }).goto a k)
  | beginTake {f k fu} : act.pc = .begin (.take f) k → s.futs[f]? = some fu → 
      Step s a act ((s.setFut f (if fu.res == .ok || fu.res == .canceled then { fu with res := .returned } else fu)).goto a k)
  -- schedule_thread
  | stReap {k} : act.pc = .stReap k → s.threadsLock = none →
      Step s a act (({ s with threadsVec := s.threadsVec.filter (fun p => match s.pthreads[p]? with | some pt => !(pt.exited && !pt.hungUp) | none => false) }).goto a (.stScanLock k))
  | stScanLock {k} : act.pc = .stScanLock k → s.threadsLock = none →
      Step s a act (({ s with threadsLock := some a }).goto a (.stScan 0 k))
  | stScanEnd {i k} : act.pc = .stScan i k → s.threadsVec[i]? = none →
      Step s a act (({ s with threadsLock := none }).goto a (.stReadMax k))
  | stScanSkip {i k p pt} : act.pc = .stScan i k → s.threadsVec[i]? = some p → s.pthreads[p]? = some pt →
      pt.busyLock.isSome = true → dormantScanBlocks = false → Step s a act (s.goto a (.stScan (i+1) k))
  | stScanTake {i k p pt} : act.pc = .stScan i k → s.threadsVec[i]? = some p → s.pthreads[p]? = some pt →
      pt.busyLock = none → Step s a act ((s.setPThr p { pt with busyLock := some a }).goto a (.stScanHeld i k))
  | stScanHeldBusy {i k p pt} : act.pc = .stScanHeld i k → s.threadsVec[i]? = some p → s.pthreads[p]? = some pt →
      pt.busy = true → Step s a act ((s.setPThr p { pt with busyLock := none }).goto a (.stScan (i+1) k))
  | stScanHeldIdle {i k p pt} : act.pc = .stScanHeld i k → s.threadsVec[i]? = some p → s.pthreads[p]? = some pt →
      pt.busy = false → Step s a act ((s.setPThr p { pt with busy := true, mailbox := pt.mailbox + 1 }).goto a (.stScanRel i true k))
  | stScanRel {i found k p pt} : act.pc = .stScanRel i found k → s.threadsVec[i]? = some p → s.pthreads[p]? = some pt →
      Step s a act ((s.setPThr p { pt with busyLock := none }).goto a (.stScanUnlock found k))
  | stScanUnlock {found k} : act.pc = .stScanUnlock found k → Step s a act (({ s with threadsLock := none }).goto a k)
  | stReadMax {k} : act.pc = .stReadMax k → Step s a act (s.goto a (.stSpawn s.maxThreads k))
  | stSpawn {m k} : act.pc = .stSpawn m k → s.threadsLock = none → spawnAllowed s.threadsVec.length m = true →
      Step s a act (({ s with pthreads := s.pthreads ++ [({ busy := false, busyLock := none, mailbox := 0, hungUp := false, exited := false } : PThr)],
                              threadsVec := s.threadsVec ++ [s.pthreads.length], threadsLock := some a,
                              acts := s.acts ++ [poolAct s.pthreads.length] }).goto a (.stSpawnRel k))
  | stSpawnFull {m k} : act.pc = .stSpawn m k → s.threadsLock = none → spawnAllowed s.threadsVec.length m = false →
      Step s a act (s.goto a k)
  | stSpawnRel {k} : act.pc = .stSpawnRel k → Step s a act (({ s with threadsLock := none }).goto a (.stReap k))
  -- reschedule_queue
  | rqCs {q k v} : act.pc = .rqCs q k → s.qs[q]? = some v →
      Step s a act ((s.setQ q { v with waiters := v.waiters.filter (fun w => s.waiterLive w), state := (reschedule v.state v.jobs.isEmpty).1 }).goto a
        (.rqNotifyAcq q (v.waiters.filter (fun w => s.waiterLive w)) (reschedule v.state v.jobs.isEmpty).2 k))
  | rqNotifiedPush {q k} : act.pc = .rqNotifyAcq q [] true k → Step s a act (s.goto a (.rqPush q k))
  | rqNotifiedDone {q k} : act.pc = .rqNotifyAcq q [] false k → Step s a act (s.goto a k)
  | rqNotifyAcq {q w rest r k} : act.pc = .rqNotifyAcq q (w :: rest) r k → s.readyHeld w = false →
      Step s a act ((s.takeReady w a).goto a (.rqNotify q (w :: rest) r k))
  | rqNotify {q w rest r k} : act.pc = .rqNotify q (w :: rest) r k →
      Step s a act ((s.notify w).goto a (.rqNotifyRel q (w :: rest) r k))
  | rqNotifyRel {q w rest r k} : act.pc = .rqNotifyRel q (w :: rest) r k →
      Step s a act ((s.dropReady w).goto a (.rqNotifyAcq q rest r k))
  | rqPush {q k} : act.pc = .rqPush q k → s.schedLock = none →
      Step s a act (({ s with schedule := s.schedule ++ [q] }).goto a (.stReap k))
  -- wakers
  | wakingDone {k} : act.pc = .waking [] k → Step s a act (s.goto a k)
  | wakingQueue {q rest k} : act.pc = .waking (.queue q :: rest) k → Step s a act (s.goto a (.wqCs q (.waking rest k)))
  | wakingThread {q th rest k} : act.pc = .waking (.thread q th :: rest) k → Step s a act (s.goto a (.wtCs q th (.waking rest k)))
  | wakingLatch {l rest k} : act.pc = .waking (.latch l :: rest) k → Step s a act (s.goto a (.lwCs l (.waking rest k)))
  | wakingDouble {d rest k} : act.pc = .waking (.double d :: rest) k → Step s a act (s.goto a (.dwCs d (.waking rest k)))
  | wakingTask {th rest k} : act.pc = .waking (.task th :: rest) k →
      Step s a act (({ s with taskWoken := if s.taskWoken.contains th then s.taskWoken else th :: s.taskWoken }).goto a (.waking rest k))
  | openSendDone {g k gt} : act.pc = .openSend g k → s.gates[g]? = some gt → gt.waiting = [] → Step s a act (s.goto a k)
  | openSendGone {g k gt o rest} : act.pc = .openSend g k → s.gates[g]? = some gt → gt.waiting = o :: rest →
      s.jobOfOp o = none → s.sfOfUserOp o = none →
      Step s a act ((s.setGate g { gt with waiting := rest }).goto a (.openSend g k))
  | openSendSfWake {g k gt o rest u sf w} : act.pc = .openSend g k → s.gates[g]? = some gt → gt.waiting = o :: rest →
      s.jobOfOp o = none → s.sfOfUserOp o = some u → s.sfs[u]? = some sf → sf.userReg = some w →
      Step s a act (((s.setGate g { gt with waiting := rest }).setSf u { sf with userReg := none }).goto a (.waking [w] (.openSend g k)))
  | openSendSf {g k gt o rest u sf} : act.pc = .openSend g k → s.gates[g]? = some gt → gt.waiting = o :: rest →
      s.jobOfOp o = none → s.sfOfUserOp o = some u → s.sfs[u]? = some sf → sf.userReg = none →
      Step s a act (((s.setGate g { gt with waiting := rest }).setSf u { sf with userReg := none }).goto a (.openSend g k))
  | openSendJobWake {g k gt o rest j jb w} : act.pc = .openSend g k → s.gates[g]? = some gt → gt.waiting = o :: rest →
      s.jobOfOp o = some j → s.jobs[j]? = some jb → jb.reg = some w →
      Step s a act (((s.setGate g { gt with waiting := rest }).setJob j { jb with reg := none }).goto a (.waking [w] (.openSend g k)))
  | openSendJob {g k gt o rest j jb} : act.pc = .openSend g k → s.gates[g]? = some gt → gt.waiting = o :: rest →
      s.jobOfOp o = some j → s.jobs[j]? = some jb → jb.reg = none →
      Step s a act (((s.setGate g { gt with waiting := rest }).setJob j { jb with reg := none }).goto a (.openSend g k))
  | wqCsResched {q k v} : act.pc = .wqCs q k → s.qs[q]? = some v → (wakeQueue v.state).2 = true →
      Step s a act ((s.setQ q { v with state := (wakeQueue v.state).1 }).goto a (.rqCs q k))
  | wqCs {q k v} : act.pc = .wqCs q k → s.qs[q]? = some v → (wakeQueue v.state).2 = false →
      Step s a act ((s.setQ q { v with state := (wakeQueue v.state).1 }).goto a k)
  | wtCs {q th k v} : act.pc = .wtCs q th k → s.qs[q]? = some v →
      Step s a act ((s.setQ q { v with state := wakeThread v.state }).goto a (.wtUnpark th k))
  | wtUnpark {th k} : act.pc = .wtUnpark th k →
      Step s a act (({ s with parkToken := if s.parkToken.contains th then s.parkToken else th :: s.parkToken }).goto a k)
  | lwCsWake {l k st w} : act.pc = .lwCs l k → s.latches[l]? = some (st, some w) → (latchWake st).2 = true →
      Step s a act (({ s with latches := s.latches.set l ((latchWake st).1, none) }).goto a (.waking [w] k))
  | lwCsEmpty {l k st} : act.pc = .lwCs l k → s.latches[l]? = some (st, none) → (latchWake st).2 = true →
      Step s a act (({ s with latches := s.latches.set l ((latchWake st).1, none) }).goto a k)
  | lwCsKeep {l k st w} : act.pc = .lwCs l k → s.latches[l]? = some (st, w) → (latchWake st).2 = false →
      Step s a act (({ s with latches := s.latches.set l ((latchWake st).1, w) }).goto a k)
  | dwCsWake {d k w1 w2} : act.pc = .dwCs d k → s.doubles[d]? = some (some (w1, w2)) →
      Step s a act (({ s with doubles := s.doubles.set d none }).goto a (.waking [w1, w2] k))
  | dwCsEmpty {d k} : act.pc = .dwCs d k → s.doubles[d]? = some none →
      Step s a act (({ s with doubles := s.doubles.set d none }).goto a k)
  -- schedule_job_desync
  | dsPushSchedule {q kind v} : act.pc = .dsPush q kind → s.qs[q]? = some v → (desyncPush v.state).2 = .schedule →
      Step s a act (((s.newJob q kind).1.setQ q { v with jobs := v.jobs ++ [(s.newJob q kind).2], state := (desyncPush v.state).1 }).goto a (.dsSched q))
  | dsPushNone {q kind v} : act.pc = .dsPush q kind → s.qs[q]? = some v → (desyncPush v.state).2 = .none →
      Step s a act (((s.newJob q kind).1.setQ q { v with jobs := v.jobs ++ [(s.newJob q kind).2], state := (desyncPush v.state).1 }).goto a .ret)
  | dsPushPanic {q kind v} : act.pc = .dsPush q kind → s.qs[q]? = some v → (desyncPush v.state).2 = .panic →
      Step s a act (((s.newJob q kind).1.setQ q { v with jobs := v.jobs ++ [(s.newJob q kind).2], state := (desyncPush v.state).1 }).goto a .panicked)
  | dsSched {q} : act.pc = .dsSched q → s.schedLock = none →
      Step s a act (({ s with schedule := s.schedule ++ [q] }).goto a (.stReap .ret))
  -- sync / try_sync
  | syImmediate {q b v} : act.pc = .syDecide q b → s.qs[q]? = some v → (syncDecide v.state v.jobs.isEmpty).2 = .immediate →
      Step s a act ((({ s.setQ q { v with state := (syncDecide v.state v.jobs.isEmpty).1 } with
          jobs := s.jobs ++ [({ q := q, kind := .immediate a b, ph := .held a, begun := true, ended := false, reg := none } : Job)] }).setHolder q (some a)).goto a
        (.begin b (.siIdle q s.jobs.length)))
  | syDrain {q b v} : act.pc = .syDecide q b → s.qs[q]? = some v → (syncDecide v.state v.jobs.isEmpty).2 = .drain →
      Step s a act (((s.setQ q { v with state := (syncDecide v.state v.jobs.isEmpty).1 }).setHolder q (some a)).goto a (.sdPush q b))
  | syBackground {q b v} : act.pc = .syDecide q b → s.qs[q]? = some v → (syncDecide v.state v.jobs.isEmpty).2 = .background →
      Step s a act ((s.setQ q { v with state := (syncDecide v.state v.jobs.isEmpty).1 }).goto a (.sbReg q b))
  | syPanic {q b v} : act.pc = .syDecide q b → s.qs[q]? = some v →
      (syncDecide v.state v.jobs.isEmpty).2 ≠ .immediate → (syncDecide v.state v.jobs.isEmpty).2 ≠ .drain →
      (syncDecide v.state v.jobs.isEmpty).2 ≠ .background →
      Step s a act ((s.setQ q { v with state := (syncDecide v.state v.jobs.isEmpty).1 }).goto a .panicked)
  | tsImmediate {q b v} : act.pc = .tsDecide q b → s.qs[q]? = some v → (trySyncDecide v.state v.jobs.isEmpty).2 = .immediate →
      Step s a act ((({ s.setQ q { v with state := (trySyncDecide v.state v.jobs.isEmpty).1 } with
          jobs := s.jobs ++ [({ q := q, kind := .immediate a b, ph := .held a, begun := true, ended := false, reg := none } : Job)] }).setHolder q (some a)).goto a
        (.begin b (.siIdle q s.jobs.length)))
  | tsBusy {q b v} : act.pc = .tsDecide q b → s.qs[q]? = some v → (trySyncDecide v.state v.jobs.isEmpty).2 = .busy →
      Step s a act ((s.setQ q { v with state := (trySyncDecide v.state v.jobs.isEmpty).1 }).setAct a { act with pc := .ret, result := some 1 })
  | tsPanic {q b v} : act.pc = .tsDecide q b → s.qs[q]? = some v →
      (trySyncDecide v.state v.jobs.isEmpty).2 ≠ .immediate → (trySyncDecide v.state v.jobs.isEmpty).2 ≠ .busy →
      Step s a act ((s.setQ q { v with state := (trySyncDecide v.state v.jobs.isEmpty).1 }).goto a .panicked)
  | siIdle {q j jb} : act.pc = .siIdle q j → s.jobs[j]? = some jb →
      Step s a act ((((s.setJob j { jb with ended := true, ph := .done }).setQState q .idle).setHolder q none).goto a (.rqCs q .ret))
  | sdPush {q b} : act.pc = .sdPush q b →
      Step s a act (((s.newJob q (.erasedDrain a b)).1.pushBack q (s.newJob q (.erasedDrain a b)).2).goto a (.sdCheck q (s.newJob q (.erasedDrain a b)).2))
  | sdCheckDone {q j jb} : act.pc = .sdCheck q j → s.jobs[j]? = some jb → (jb.ph == .done) = true → Step s a act (s.goto a (.sdIdle q))
  | sdCheckRun {q j jb} : act.pc = .sdCheck q j → s.jobs[j]? = some jb → (jb.ph == .done) = false →
      Step s a act (s.goto a (.rjDequeue q (.sdCheck q j)))
  | sdIdle {q} : act.pc = .sdIdle q → Step s a act (((s.setQState q .idle).setHolder q none).goto a (.rqCs q .ret))
  | sbReg {q b v} : act.pc = .sbReg q b → s.qs[q]? = some v →
      Step s a act ((s.setQ q { v with waiters := v.waiters ++ [a] }).goto a (.sbPush q b))
  | sbPushIdle {q b v} : act.pc = .sbPush q b → s.qs[q]? = some v → (v.state == .idle) = true →
      Step s a act (((s.newJob q (.erasedBg a b)).1.setQ q { v with jobs := v.jobs ++ [(s.newJob q (.erasedBg a b)).2] }).goto a
        (.rqCs q (.sbLockReady q (s.newJob q (.erasedBg a b)).2)))
  | sbPush {q b v} : act.pc = .sbPush q b → s.qs[q]? = some v → (v.state == .idle) = false →
      Step s a act (((s.newJob q (.erasedBg a b)).1.setQ q { v with jobs := v.jobs ++ [(s.newJob q (.erasedBg a b)).2] }).goto a
        (.sbLockReady q (s.newJob q (.erasedBg a b)).2))
  | sbLockReady {q j} : act.pc = .sbLockReady q j → s.readyHeld a = false → Step s a act ((s.takeReady a a).goto a (.sbTest q j))
  | sbTestReady {q j} : act.pc = .sbTest q j → s.isReady a = true → Step s a act (s.goto a (.sbDone q j))
  | sbTest {q j} : act.pc = .sbTest q j → s.isReady a = false → Step s a act (s.goto a (.sbClaim q j))
  | sbClaimed {q j v} : act.pc = .sbClaim q j → s.schedLock = none → s.qs[q]? = some v → (claim v.state).2 = true →
      Step s a act ((({ s.setQ q { v with state := (claim v.state).1 } with schedule := s.schedule.filter (· != q), schedLock := some a }).setHolder q (some a)).goto a
        (.sbClaimRel q j true))
  | sbClaim {q j v} : act.pc = .sbClaim q j → s.schedLock = none → s.qs[q]? = some v → (claim v.state).2 = false →
      Step s a act (({ s.setQ q { v with state := (claim v.state).1 } with schedLock := some a }).goto a (.sbClaimRel q j false))
  | sbClaimRelTrue {q j} : act.pc = .sbClaimRel q j true → Step s a act (({ s with schedLock := none }).goto a (.sbRelReady q j))
  | sbClaimRelFalse {q j} : act.pc = .sbClaimRel q j false → Step s a act (({ s with schedLock := none }).goto a (.sbWait q j))
  | sbRelReady {q j} : act.pc = .sbRelReady q j → Step s a act ((s.dropReady a).goto a (.sbStealTest q j))
  | sbStealDone {q j} : act.pc = .sbStealTest q j → s.readyHeld a = false → s.isReady a = true → Step s a act (s.goto a (.sbStealIdle q j))
  | sbSteal {q j} : act.pc = .sbStealTest q j → s.readyHeld a = false → s.isReady a = false →
      Step s a act (s.goto a (.rjDequeue q (.sbStealTest q j)))
  | sbStealIdle {q j} : act.pc = .sbStealIdle q j →
      Step s a act (((s.setQState q .idle).setHolder q none).goto a (.rqCs q (.sbLockReady q j)))
  | sbWait {q j} : act.pc = .sbWait q j → Step s a act (((s.dropReady a).setWoken a false).goto a (.sbWaiting q j))
  | sbWaiting {q j} : act.pc = .sbWaiting q j → act.woken = true → s.readyHeld a = false →
      Step s a act (((s.takeReady a a).setWoken a false).goto a (.sbTest q j))
  | sbDone {q j} : act.pc = .sbDone q j → Step s a act ((s.dropReady a).goto a (.sbDropCv q))
  | sbDropCv {q} : act.pc = .sbDropCv q → Step s a act (s.goto a (.sbPrune q))
  | sbPrune {q v} : act.pc = .sbPrune q → s.qs[q]? = some v →
      Step s a act ((s.goto a .ret).setQ q { v with waiters := v.waiters.filter (fun w => s.waiterLive w) })
  -- run_one_job_now
  | rjDequeue {q k j} : act.pc = .rjDequeue q k → (s.dequeue q a).2 = some j →
      Step s a act ((s.dequeue q a).1.goto a (.jobStart j (.caller q) k))
  | rjDequeueNone {q k} : act.pc = .rjDequeue q k → (s.dequeue q a).2 = none → Step s a act ((s.dequeue q a).1.goto a k)
  | rjPendingPark {q j k v} : act.pc = .rjPending q j k → s.qs[q]? = some v → (runOnePending v.state).2 = .park →
      Step s a act ((s.setQ q { v with state := (runOnePending v.state).1 }).goto a (.rjParkCheck q j k))
  | rjPendingContinue {q j k v} : act.pc = .rjPending q j k → s.qs[q]? = some v → (runOnePending v.state).2 = .continue →
      Step s a act ((s.setQ q { v with state := (runOnePending v.state).1 }).goto a (.jobStart j (.caller q) k))
  | rjPendingPanic {q j k v jb} : act.pc = .rjPending q j k → s.qs[q]? = some v → (runOnePending v.state).2 = .panic → s.jobs[j]? = some jb →
      Step s a act (((s.setQ q { v with state := (runOnePending v.state).1 }).setJob j { jb with ph := .done, ended := true }).goto a (.unwinding k))
  | rjPendingPanicNone {q j k v} : act.pc = .rjPending q j k → s.qs[q]? = some v → (runOnePending v.state).2 = .panic → s.jobs[j]? = none →
      Step s a act ((s.setQ q { v with state := (runOnePending v.state).1 }).goto a (.unwinding k))
  | rjParkCheckContinue {q j k} : act.pc = .rjParkCheck q j k → parkCheck (s.qState q) = .continue →
      Step s a act (s.goto a (.jobStart j (.caller q) k))
  | rjParkCheckPark {q j k} : act.pc = .rjParkCheck q j k → parkCheck (s.qState q) = .park → Step s a act (s.goto a (.rjPark q j k))
  | rjParkCheckPanic {q j k jb} : act.pc = .rjParkCheck q j k → parkCheck (s.qState q) = .panic → s.jobs[j]? = some jb →
      Step s a act ((s.setJob j { jb with ph := .done, ended := true }).goto a (.unwinding k))
  | rjParkCheckPanicNone {q j k} : act.pc = .rjParkCheck q j k → parkCheck (s.qState q) = .panic → s.jobs[j]? = none →
      Step s a act (s.goto a (.unwinding k))
  | rjPark {q j k} : act.pc = .rjPark q j k → Step s a act (s.goto a (.rjParked q j k))
  | rjParked {q j k} : act.pc = .rjParked q j k → s.parkToken.contains act.thread = true →
      Step s a act (({ s with parkToken := s.parkToken.filter (· != act.thread) }).goto a (.rjParkCheck q j k))
  -- running / polling a job
  | jobStartPlain {j c k jb op} : act.pc = .jobStart j c k → s.jobs[j]? = some jb → jb.kind = .plain op →
      Step s a act ((s.setJob j { jb with begun := true }).goto a (.begin (.user op) (.jobBodyDone j c k)))
  | jobStartDrain {j c k jb o b} : act.pc = .jobStart j c k → s.jobs[j]? = some jb → jb.kind = .erasedDrain o b →
      Step s a act ((s.setJob j { jb with begun := true }).goto a (.begin b (.jobBodyDone j c k)))
  | jobStartBg {j c k jb o b} : act.pc = .jobStart j c k → s.jobs[j]? = some jb → jb.kind = .erasedBg o b →
      Step s a act ((s.setJob j { jb with begun := true }).goto a (.begin b (.jobBodyDone j c k)))
  | jobStartFutAgain {j c k jb op gate r} : act.pc = .jobStart j c k → s.jobs[j]? = some jb → jb.kind = .fut op gate r → jb.begun = true →
      Step s a act (s.goto a (.jobAwait j c k))
  | jobStartFut {j c k jb op gate r} : act.pc = .jobStart j c k → s.jobs[j]? = some jb → jb.kind = .fut op gate r → jb.begun = false →
      Step s a act (((s.setJob j { jb with begun := true }).regGate gate op).goto a (.jobAwait j c k))
  | jobStartAfter {j c k jb op g r} : act.pc = .jobStart j c k → s.jobs[j]? = some jb → jb.kind = .after op g r →
      Step s a act (s.goto a (.jobAwait j c k))
  | jobStartSlotAgain {j c k jb u r} : act.pc = .jobStart j c k → s.jobs[j]? = some jb → jb.kind = .slot u r → jb.begun = true →
      Step s a act (s.goto a (.jobAwait j c k))
  | jobStartSlotWake {j c k jb u r sf w} : act.pc = .jobStart j c k → s.jobs[j]? = some jb → jb.kind = .slot u r → jb.begun = false →
      s.sfs[u]? = some sf → sf.readyWaker = some w →
      Step s a act (((s.setJob j { jb with begun := true }).setSf u { sf with readySent := true, readyWaker := none }).goto a (.waking [w] (.jobAwait j c k)))
  | jobStartSlot {j c k jb u r sf} : act.pc = .jobStart j c k → s.jobs[j]? = some jb → jb.kind = .slot u r → jb.begun = false →
      s.sfs[u]? = some sf → sf.readyWaker = none →
      Step s a act (((s.setJob j { jb with begun := true }).setSf u { sf with readySent := true, readyWaker := none }).goto a (.jobAwait j c k))
  | jobStartSuspAgain {j c k jb op g fs r} : act.pc = .jobStart j c k → s.jobs[j]? = some jb → jb.kind = .susp op g fs r → jb.begun = true →
      Step s a act (s.goto a (.jobAwait j c k))
  | jobStartSusp {j c k jb op g fs r} : act.pc = .jobStart j c k → s.jobs[j]? = some jb → jb.kind = .susp op g fs r → jb.begun = false →
      Step s a act ((s.setJob j { jb with begun := true }).goto a (.suspSignal j c k))
  | suspSignalWake {j c k jb op g fs r fu w} : act.pc = .suspSignal j c k → s.jobs[j]? = some jb → jb.kind = .susp op g fs r →
      s.futs[fs]? = some fu → fu.waker = some w →
      Step s a act ((s.setFut fs { fu with res := .ok, waker := none }).goto a (.waking [w] (.suspSigDrop j c k)))
  | suspSignal {j c k jb op g fs r fu} : act.pc = .suspSignal j c k → s.jobs[j]? = some jb → jb.kind = .susp op g fs r →
      s.futs[fs]? = some fu → fu.waker = none →
      Step s a act ((s.setFut fs { fu with res := .ok, waker := none }).goto a (.suspSigDrop j c k))
  | suspSigDrop {j c k jb op g fs r} : act.pc = .suspSigDrop j c k → s.jobs[j]? = some jb → jb.kind = .susp op g fs r →
      Step s a act (s.goto a (.jobAwait j c k))
  | jobAwaitAfter {j c k jb op g r} : act.pc = .jobAwait j c k → s.jobs[j]? = some jb → s.awaited jb.kind = true → jb.kind = .after op g r →
      Step s a act ((s.setJob j { jb with begun := true }).goto a (.begin (.user op) (.jobBodyDone j c k)))
  | jobAwaitSlot {j c k jb u r} : act.pc = .jobAwait j c k → s.jobs[j]? = some jb → s.awaited jb.kind = true → jb.kind = .slot u r →
      Step s a act (s.goto a (.jobSignal j c k))
  | jobAwaitSusp {j c k jb op g fs r} : act.pc = .jobAwait j c k → s.jobs[j]? = some jb → s.awaited jb.kind = true → jb.kind = .susp op g fs r →
      Step s a act (s.goto a (.jobSignal j c k))
  | jobAwaitReady {j c k jb} : act.pc = .jobAwait j c k → s.jobs[j]? = some jb → s.awaited jb.kind = true →
      (∀ op g r, jb.kind ≠ .after op g r) → (∀ u r, jb.kind ≠ .slot u r) → (∀ op g fs r, jb.kind ≠ .susp op g fs r) →
      Step s a act (s.goto a (.jobEnd j c k))
  | jobAwaitPendingSlot {j c k jb u r sf} : act.pc = .jobAwait j c k → s.jobs[j]? = some jb → s.awaited jb.kind = false → jb.kind = .slot u r →
      s.sfs[u]? = some sf →
      Step s a act ((s.setSf u { sf with doneWaker := some (ctxWaker act.thread c) }).goto a (ctxPending j k c))
  | jobAwaitPending {j c k jb} : act.pc = .jobAwait j c k → s.jobs[j]? = some jb → s.awaited jb.kind = false → (∀ u r, jb.kind ≠ .slot u r) →
      Step s a act ((s.setJob j { jb with reg := some (ctxWaker act.thread c) }).goto a (ctxPending j k c))
  | jobBodyDoneDrain {j c k jb o b} : act.pc = .jobBodyDone j c k → s.jobs[j]? = some jb → jb.kind = .erasedDrain o b →
      Step s a act ((s.setJob j { jb with ended := true }).goto a (.jobDrop j c k))
  | jobBodyDoneAfter {j c k jb op g r} : act.pc = .jobBodyDone j c k → s.jobs[j]? = some jb → jb.kind = .after op g r →
      Step s a act ((s.setJob j { jb with ended := true }).goto a (.jobSignal j c k))
  | jobBodyDone {j c k jb} : act.pc = .jobBodyDone j c k → s.jobs[j]? = some jb →
      (∀ o b, jb.kind ≠ .erasedDrain o b) → (∀ op g r, jb.kind ≠ .after op g r) →
      Step s a act ((s.setJob j { jb with ended := true }).goto a (.jobDrop j c k))
  | jobEnd {j c k jb op g r} : act.pc = .jobEnd j c k → s.jobs[j]? = some jb → jb.kind = .fut op g r →
      Step s a act ((s.setJob j { jb with ended := true }).goto a (.jobSignal j c k))
  | jobSignalWake {j c k jb r fu w} : act.pc = .jobSignal j c k → s.jobs[j]? = some jb → jb.kind.res = some r → s.futs[r]? = some fu →
      fu.waker = some w →
      Step s a act (((s.setJob j { jb with ended := true, sig := true }).setFut r { fu with res := .ok, waker := none }).goto a (.waking [w] (.jobSigDrop j c k)))
  | jobSignal {j c k jb r fu} : act.pc = .jobSignal j c k → s.jobs[j]? = some jb → jb.kind.res = some r → s.futs[r]? = some fu →
      fu.waker = none →
      Step s a act (((s.setJob j { jb with ended := true, sig := true }).setFut r { fu with res := .ok, waker := none }).goto a (.jobSigDrop j c k))
  | jobSigDropCancelWake {j c k jb r fu w} : act.pc = .jobSigDrop j c k → s.jobs[j]? = some jb → jb.kind.res = some r → s.futs[r]? = some fu →
      (fu.res == .none) = true → fu.waker = some w →
      Step s a act ((s.setFut r { fu with res := .canceled, waker := none }).goto a (.waking [w] (.jobDrop j c k)))
  | jobSigDropCancel {j c k jb r fu} : act.pc = .jobSigDrop j c k → s.jobs[j]? = some jb → jb.kind.res = some r → s.futs[r]? = some fu →
      (fu.res == .none) = true → fu.waker = none →
      Step s a act ((s.setFut r { fu with res := .canceled, waker := none }).goto a (.jobDrop j c k))
  | jobSigDrop {j c k jb r fu} : act.pc = .jobSigDrop j c k → s.jobs[j]? = some jb → jb.kind.res = some r → s.futs[r]? = some fu →
      (fu.res == .none) = false → Step s a act (s.goto a (.jobDrop j c k))
  | jobDropBg {j c k jb o b} : act.pc = .jobDrop j c k → s.jobs[j]? = some jb → jb.kind = .erasedBg o b → s.readyHeld o = false →
      Step s a act (({ s.setJob j { jb with ph := .done, ended := true } with ready := o :: s.ready }).goto a (.jobDropNotify j c k))
  | jobDrop {j c k jb} : act.pc = .jobDrop j c k → s.jobs[j]? = some jb → (∀ o b, jb.kind ≠ .erasedBg o b) →
      Step s a act ((s.setJob j { jb with ph := .done, ended := true }).goto a (ctxReady k c))
  | jobDropNotify {j c k jb o b} : act.pc = .jobDropNotify j c k → s.jobs[j]? = some jb → jb.kind = .erasedBg o b →
      Step s a act ((s.notify o).goto a (ctxReady k c))
  -- pool thread
  | ptRecv {p} : act.pc = .ptRecv p → Step s a act (s.goto a (.ptRecvd p))
  | ptRecvd {p pt} : act.pc = .ptRecvd p → s.pthreads[p]? = some pt → pt.mailbox > 0 →
      Step s a act ((s.setPThr p { pt with mailbox := pt.mailbox - 1 }).goto a (.ptLockBusy p))
  | ptRecvdHungUp {p pt} : act.pc = .ptRecvd p → s.pthreads[p]? = some pt → ¬ pt.mailbox > 0 → pt.hungUp = true →
      Step s a act ((s.setPThr p { pt with exited := true }).goto a .dead)
  | ptLockBusy {p pt} : act.pc = .ptLockBusy p → s.pthreads[p]? = some pt → pt.busyLock = none →
      Step s a act ((s.setPThr p { pt with busyLock := some a }).goto a (.ptLockSched p))
  | ptLockSched {p} : act.pc = .ptLockSched p → s.schedLock = none → Step s a act (({ s with schedLock := some a }).goto a (.ptPop p))
  | ptPopEmpty {p} : act.pc = .ptPop p → s.schedule = [] → Step s a act (({ s with schedLock := none }).goto a (.ptUnlockBusy p none))
  | ptPopTake {p q rest v} : act.pc = .ptPop p → s.schedule = q :: rest → s.qs[q]? = some v → (nextToRun v.state).2 = true →
      Step s a act (((({ s with schedule := rest }).setQ q { v with state := (nextToRun v.state).1 }).setHolder q (some a)).goto a (.ptUnlockSched p (some q)))
  | ptPopSkip {p q rest v} : act.pc = .ptPop p → s.schedule = q :: rest → s.qs[q]? = some v → (nextToRun v.state).2 = false →
      Step s a act ((({ s with schedule := rest }).setQ q { v with state := (nextToRun v.state).1 }).goto a (.ptPop p))
  | ptUnlockSched {p got} : act.pc = .ptUnlockSched p got → Step s a act (({ s with schedLock := none }).goto a (.ptUnlockBusy p got))
  | ptUnlockBusyGot {p q pt} : act.pc = .ptUnlockBusy p (some q) → s.pthreads[p]? = some pt →
      Step s a act ((s.setPThr p { pt with busyLock := none }).goto a (.pdDequeue p q))
  | ptUnlockBusyNone {p pt} : act.pc = .ptUnlockBusy p none → s.pthreads[p]? = some pt →
      Step s a act ((s.setPThr p { pt with busyLock := none, busy := false }).goto a (.ptRecv p))
  | pdDequeue {p q j} : act.pc = .pdDequeue p q → (s.dequeue q a).2 = some j →
      Step s a act ((s.dequeue q a).1.goto a (.jobStart j (.pool p q) .dead))
  | pdDequeueNone {p q} : act.pc = .pdDequeue p q → (s.dequeue q a).2 = none → Step s a act ((s.dequeue q a).1.goto a (.pdExit p q))
  | pdRequeue {p q j} : act.pc = .pdRequeue p q j → Step s a act (((s.pushFront q j).setJobPh j .queued).goto a (.pdPending p q))
  | pdPendingLeave {p q v} : act.pc = .pdPending p q → s.qs[q]? = some v → (drainPending v.state).2 = true →
      Step s a act (((s.setQ q { v with state := (drainPending v.state).1 }).setHolder q none).goto a (.ptLockBusy p))
  | pdPending {p q v} : act.pc = .pdPending p q → s.qs[q]? = some v → (drainPending v.state).2 = false →
      Step s a act ((s.setQ q { v with state := (drainPending v.state).1 }).goto a (.pdDequeue p q))
  | pdExitLeave {p q v} : act.pc = .pdExit p q → s.qs[q]? = some v → (drainExit v.state v.jobs.isEmpty).2 = true →
      Step s a act (((s.setQ q { v with state := (drainExit v.state v.jobs.isEmpty).1 }).setHolder q none).goto a (.ptLockBusy p))
  | pdExit {p q v} : act.pc = .pdExit p q → s.qs[q]? = some v → (drainExit v.state v.jobs.isEmpty).2 = false →
      Step s a act ((s.setQ q { v with state := (drainExit v.state v.jobs.isEmpty).1 }).goto a (.pdDequeue p q))
  -- SchedulerFuture::poll
  | pfPollReady {f fu} : act.pc = .pfPoll f → s.futs[f]? = some fu → (fu.res == .ok || fu.res == .canceled) = true →
      Step s a act ((s.setFut f { fu with res := .returned }).setAct a { act with pc := .pollReady f, result := some (if fu.res == .ok then 0 else 2) })
  | pfPollWait {f fu v} : act.pc = .pfPoll f → s.futs[f]? = some fu → (fu.res == .ok || fu.res == .canceled) = false → s.qs[fu.q]? = some v →
      (pollDecide f v.state).2.1 = .wait →
      Step s a act ((s.setQ fu.q { v with state := (pollDecide f v.state).1 }).goto a (.pfPollRel f (.pollPending f)))
  | pfPollDrain {f fu v} : act.pc = .pfPoll f → s.futs[f]? = some fu → (fu.res == .ok || fu.res == .canceled) = false → s.qs[fu.q]? = some v →
      (pollDecide f v.state).2.1 = .drain →
      Step s a act (((s.setQ fu.q { v with state := (pollDecide f v.state).1 }).setHolder fu.q (some a)).goto a (.pfPollRel f (.dqCheck f fu.q)))
  | pfPollPanic {f fu v} : act.pc = .pfPoll f → s.futs[f]? = some fu → (fu.res == .ok || fu.res == .canceled) = false → s.qs[fu.q]? = some v →
      (pollDecide f v.state).2.1 = .panic →
      Step s a act ((s.setQ fu.q { v with state := (pollDecide f v.state).1 }).goto a (.pfPollRel f .panicked))
  | pfPollRelDrain {f f' q fu} : act.pc = .pfPollRel f (.dqCheck f' q) → s.futs[f]? = some fu → Step s a act (s.goto a (.dqCheck f' q))
  | pfPollRel {f next fu} : act.pc = .pfPollRel f next → s.futs[f]? = some fu → (∀ f' q, next ≠ .dqCheck f' q) →
      Step s a act ((s.setFut f { fu with waker := some (.task act.thread) }).goto a next)
  | pfBlocked {f} : act.pc = .pfBlocked f → s.taskWoken.contains act.thread = true →
      Step s a act (({ s with taskWoken := s.taskWoken.filter (· != act.thread) }).goto a (.pfPoll f))
  | pollReadyAwait {f} : act.pc = .pollReady f → act.mode = .await → Step s a act (s.goto a (.fdDrop f .ret))
  | pollReadySfQueue {f u} : act.pc = .pollReady f → act.mode = .sfQueue u → Step s a act (s.goto a (.sfRecv u))
  | pollReadySfSched {f u sf} : act.pc = .pollReady f → act.mode = .sfSched u → s.sfs[u]? = some sf →
      Step s a act ((s.setSf u { sf with stage := .completed }).setAct a { act with pc := .fdDrop sf.f .ret, result := some 0 })
  | pollPendingOnce {f} : act.pc = .pollPending f → act.mode = .await → act.once = true →
      Step s a act (s.setAct a { act with pc := .ret, result := some 3 })
  | pollPendingAwait {f} : act.pc = .pollPending f → act.mode = .await → act.once = false → Step s a act (s.goto a (.pfBlocked f))
  | pollPendingSfQueue {f u} : act.pc = .pollPending f → act.mode = .sfQueue u → Step s a act (s.goto a (.sfRecv u))
  | pollPendingSfSched {f u} : act.pc = .pollPending f → act.mode = .sfSched u → Step s a act (s.goto a (.sfBlocked u))
  -- SyncFuture
  | sfPollQueue {u sf} : act.pc = .sfPoll u → s.sfs[u]? = some sf → sf.stage = .waitingForQueue →
      Step s a act (s.setAct a { act with pc := .pfPoll sf.f, mode := .sfQueue u })
  | sfPollFuture {u sf} : act.pc = .sfPoll u → s.sfs[u]? = some sf → sf.stage = .waitingForFuture → Step s a act (s.goto a (.sfUser u))
  | sfPollSched {u sf} : act.pc = .sfPoll u → s.sfs[u]? = some sf → sf.stage = .waitingForScheduler →
      Step s a act (s.setAct a { act with pc := .pfPoll sf.f, mode := .sfSched u })
  | sfPollCompleted {u sf} : act.pc = .sfPoll u → s.sfs[u]? = some sf → sf.stage = .completed →
      Step s a act (s.setAct a { act with pc := .ret, result := some 2 })
  | sfRecvReady {u sf} : act.pc = .sfRecv u → s.sfs[u]? = some sf → sf.readySent = true →
      Step s a act (((s.setSf u { sf with stage := .waitingForFuture, userBegun := true }).regGate sf.gate sf.op).goto a (.sfUser u))
  | sfRecv {u sf} : act.pc = .sfRecv u → s.sfs[u]? = some sf → sf.readySent = false →
      Step s a act ((s.setSf u { sf with readyWaker := some (.task act.thread) }).goto a (.sfBlocked u))
  | sfUserReady {u sf} : act.pc = .sfUser u → s.sfs[u]? = some sf → (match sf.gate with | some g => s.gateReady g sf.op | none => true) = true →
      Step s a act ((s.setSf u { sf with userEnded := true }).goto a (.sfFinish u))
  | sfUser {u sf} : act.pc = .sfUser u → s.sfs[u]? = some sf → (match sf.gate with | some g => s.gateReady g sf.op | none => true) = false →
      Step s a act ((s.setSf u { sf with userReg := some (.task act.thread) }).goto a (.sfBlocked u))
  | sfFinishWake {u sf w} : act.pc = .sfFinish u → s.sfs[u]? = some sf → sf.doneWaker = some w →
      Step s a act ((s.setSf u { sf with doneSent := true, doneWaker := none, stage := .waitingForScheduler }).goto a (.waking [w] (.sfPoll u)))
  | sfFinish {u sf} : act.pc = .sfFinish u → s.sfs[u]? = some sf → sf.doneWaker = none →
      Step s a act ((s.setSf u { sf with doneSent := true, doneWaker := none, stage := .waitingForScheduler }).goto a (.sfPoll u))
  | sfBlockedOnce {u} : act.pc = .sfBlocked u → act.once = true → Step s a act (s.setAct a { act with pc := .ret, result := some 3 })
  | sfBlocked {u} : act.pc = .sfBlocked u → act.once = false → s.taskWoken.contains act.thread = true →
      Step s a act (({ s with taskWoken := s.taskWoken.filter (· != act.thread) }).goto a (.sfPoll u))
  | sfDropCancel {u sf} : act.pc = .sfDrop u → s.sfs[u]? = some sf → (sf.userBegun && !sf.userEnded) = true →
      Step s a act ((s.setSf u { sf with userEnded := true, userReg := none, readyWaker := none }).goto a (.fdDrop sf.f (.sfDropDone u)))
  | sfDrop {u sf} : act.pc = .sfDrop u → s.sfs[u]? = some sf → (sf.userBegun && !sf.userEnded) = false →
      Step s a act ((s.setSf u { sf with userReg := none, readyWaker := none }).goto a (.fdDrop sf.f (.sfDropDone u)))
  | fdDropHandBack {f k fu v} : act.pc = .fdDrop f k → s.futs[f]? = some fu → s.qs[fu.q]? = some v → fu.draining = true →
      (futureDropDecide f v.state).2 = true →
      Step s a act ((s.setQ fu.q { v with state := (futureDropDecide f v.state).1 }).goto a (.rqCs fu.q k))
  | fdDropKeep {f k fu v} : act.pc = .fdDrop f k → s.futs[f]? = some fu → s.qs[fu.q]? = some v → fu.draining = true →
      (futureDropDecide f v.state).2 = false → Step s a act (s.goto a k)
  | fdDrop {f k fu v} : act.pc = .fdDrop f k → s.futs[f]? = some fu → s.qs[fu.q]? = some v → fu.draining = false →
      Step s a act (s.goto a k)
  | sfDropDoneWake {u sf w} : act.pc = .sfDropDone u → s.sfs[u]? = some sf → sf.doneWaker = some w →
      Step s a act ((s.setSf u { sf with doneSent := true, doneWaker := none, stage := .completed }).goto a (.waking [w] .ret))
  | sfDropDone {u sf} : act.pc = .sfDropDone u → s.sfs[u]? = some sf → sf.doneWaker = none →
      Step s a act ((s.setSf u { sf with doneSent := true, doneWaker := none, stage := .completed }).goto a .ret)
  | resumeSendWake {op k j jb o g fs r gt w} : act.pc = .resumeSend op k → s.jobOfOp op = some j → s.jobs[j]? = some jb →
      jb.kind = .susp o g fs r → s.gates[g]? = some gt → jb.reg = some w →
      Step s a act (((s.setGate g { gt with isOpen := true, waiting := [] }).setJob j { jb with reg := none }).goto a (.waking [w] k))
  | resumeSend {op k j jb o g fs r gt} : act.pc = .resumeSend op k → s.jobOfOp op = some j → s.jobs[j]? = some jb →
      jb.kind = .susp o g fs r → s.gates[g]? = some gt → jb.reg = none →
      Step s a act (((s.setGate g { gt with isOpen := true, waiting := [] }).setJob j { jb with reg := none }).goto a k)
  -- SchedulerFuture::drain_queue
  | dqCheckReady {f q fu} : act.pc = .dqCheck f q → s.futs[f]? = some fu → (fu.res == .ok || fu.res == .canceled) = true →
      Step s a act ((s.setFut f { fu with res := .returned, draining := false }).setAct a
        { act with pc := .dqIdle f q, result := some (if fu.res == .ok then 0 else 2) })
  | dqCheck {f q fu} : act.pc = .dqCheck f q → s.futs[f]? = some fu → (fu.res == .ok || fu.res == .canceled) = false →
      Step s a act (s.goto a (.dqDequeue f q))
  | dqDequeue {f q j} : act.pc = .dqDequeue f q → (s.dequeue q a).2 = some j →
      Step s a act (({ (s.dequeue q a).1 with latches := (s.dequeue q a).1.latches ++ [(Latch.notWoken, none)] }).goto a
        (.jobStart j (.task f (s.dequeue q a).1.latches.length q) .dead))
  | dqDequeueNone {f q} : act.pc = .dqDequeue f q → (s.dequeue q a).2 = none → Step s a act ((s.dequeue q a).1.goto a (.dqStore2 f q))
  | dqRequeue {f j l q} : act.pc = .dqRequeue f j l q → Step s a act (((s.pushFront q j).setJobPh j .queued).goto a (.dqCheck2 f l q))
  | dqCheck2Ready {f l q fu} : act.pc = .dqCheck2 f l q → s.futs[f]? = some fu → (fu.res == .ok || fu.res == .canceled) = true →
      Step s a act ((s.setFut f { fu with res := .returned, draining := false }).setAct a
        { act with pc := .dqSetWfw f l q, result := some (if fu.res == .ok then 0 else 2) })
  | dqCheck2 {f l q fu} : act.pc = .dqCheck2 f l q → s.futs[f]? = some fu → (fu.res == .ok || fu.res == .canceled) = false →
      Step s a act (s.goto a (.dqStore f l q))
  | dqSetWfw {f l q} : act.pc = .dqSetWfw f l q →
      Step s a act (((s.setQState q .waitingForWake).setHolder q none).goto a (.dqWakeWith f l (.queue q) (.pollReady f)))
  | dqStore {f l q fu} : act.pc = .dqStore f l q → s.futs[f]? = some fu →
      Step s a act ((s.setFut f { fu with waker := some (.task act.thread), draining := true }).goto a (.dqSetWfp f l q))
  | dqSetWfp {f l q} : act.pc = .dqSetWfp f l q →
      Step s a act (((({ s with doubles := s.doubles ++ [some (Waker.queue q, Waker.task act.thread)] }).setQState q (.waitingForPoll f)).setHolder q none).goto a
        (.dqWakeWith f l (.double s.doubles.length) (.pollPending f)))
  | dqWakeWithNow {f l w k st w0} : act.pc = .dqWakeWith f l w k → s.latches[l]? = some (st, w0) → (latchWakeWith st).2 = true →
      Step s a act (({ s with latches := s.latches.set l ((latchWakeWith st).1, none) }).goto a (.waking [w] k))
  | dqWakeWith {f l w k st w0} : act.pc = .dqWakeWith f l w k → s.latches[l]? = some (st, w0) → (latchWakeWith st).2 = false →
      Step s a act (({ s with latches := s.latches.set l ((latchWakeWith st).1, some w) }).goto a k)
  | dqStore2 {f q fu} : act.pc = .dqStore2 f q → s.futs[f]? = some fu →
      Step s a act ((s.setFut f { fu with waker := some (.task act.thread), draining := false }).goto a (.dqIdle2 f q))
  | dqIdle2 {f q} : act.pc = .dqIdle2 f q → Step s a act (((s.setQState q .idle).setHolder q none).goto a (.rqCs q (.pollPending f)))
  | dqIdle {f q} : act.pc = .dqIdle f q → Step s a act (((s.setQState q .idle).setHolder q none).goto a (.rqCs q (.pollReady f)))
  | fsTakeReady {f fu} : act.pc = .fsTake f → s.futs[f]? = some fu → (fu.res == .ok || fu.res == .canceled) = true →
      Step s a act ((s.setFut f { fu with res := .returned }).setAct a { act with pc := .ret, result := some (if fu.res == .ok then 0 else 2) })
  | fsTake {f fu} : act.pc = .fsTake f → s.futs[f]? = some fu → (fu.res == .ok || fu.res == .canceled) = false →
      Step s a act (s.goto a (.syDecide fu.q (.take f)))
  -- pool management
  | smSet {n} : act.pc = .smSet n → Step s a act (({ s with maxThreads := n }).goto a .ret)
  | dpRead : act.pc = .dpRead → Step s a act (s.goto a (.dpLock s.maxThreads))
  | dpLock {m} : act.pc = .dpLock m → s.threadsLock = none → Step s a act (({ s with threadsLock := some a }).goto a (.dpHang m []))
  | dpHang {m gone p pt} : act.pc = .dpHang m gone → despawnContinues s.threadsVec.length m = true → s.threadsVec.getLast? = some p →
      s.pthreads[p]? = some pt →
      Step s a act ((({ s with threadsVec := s.threadsVec.dropLast }).setPThr p { pt with hungUp := true }).goto a (.dpHang m (gone ++ [p])))
  | dpHangDone {m gone} : act.pc = .dpHang m gone → despawnContinues s.threadsVec.length m = false →
      Step s a act (({ s with threadsLock := none }).goto a (.dpJoin gone))
  | dpJoinDone : act.pc = .dpJoin [] → Step s a act (s.goto a .ret)
  | dpJoin {p rest pt} : act.pc = .dpJoin (p :: rest) → s.pthreads[p]? = some pt → pt.exited = true → Step s a act (s.goto a (.dpJoin rest))

/-- a branch of `stepAct` whose result is the post-state of a rule -/
theorem Step.of_some {s X s' : State} {a : Nat} {act : Act} {o o' : Obs} (hs : some (X, o) = some (s', o')) (h : Step s a act X) :
    Step s a act s' := by
  cases hs; exact h

/-- Every internal step of the model follows one of the rules. -/
theorem Step.of_stepAct {s s' : State} {a : Nat} {o : Obs} (hs : stepAct s a = some (s', o)) :
    ∃ act, s.acts[a]? = some act ∧ act.child = none ∧ Step s a act s' := by
  unfold stepAct at hs
  cases ha : s.acts[a]? with
  | none => simp [ha] at hs
  | some act =>
  cases hc : act.child with
  | some c => simp [ha, hc] at hs
  | none =>
  refine ⟨act, rfl, hc, ?_⟩
  have hcs : act.child.isSome = false := by rw [hc]; rfl
  simp only [ha, hcs, Bool.false_eq_true, ↓reduceIte] at hs
  cases hpc : act.pc <;> simp only [hpc] at hs
  case ret | dead | panicked | unwinding | body | fsTake2 => cases hs
  case begin b k =>
    cases b <;> simp only at hs
    · exact .of_some hs (.beginUser hpc)
    · split at hs
      · next fu hf => exact .of_some hs (.beginTake hpc hf)
      · cases hs
    · exact .of_some hs (.beginFree hpc)
  case stReap k =>
    split at hs
    · cases hs
    · next h => exact .of_some hs (.stReap hpc (by simpa using h))
  case stScanLock k =>
    split at hs
    · cases hs
    · next h => exact .of_some hs (.stScanLock hpc (by simpa using h))
  case stScan i k =>
    split at hs
    · next h => exact .of_some hs (.stScanEnd hpc h)
    · next p hp =>
      split at hs
      · cases hs
      · next pt hpt =>
        split at hs
        · next hb =>
          split at hs
          · cases hs
          · next hd => exact .of_some hs (.stScanSkip hpc hp hpt hb (by simpa using hd))
        · next hb => exact .of_some hs (.stScanTake hpc hp hpt (by simpa using hb))
  case stScanHeld i k =>
    split at hs
    · cases hs
    · next p hp =>
      split at hs
      · cases hs
      · next pt hpt =>
        split at hs
        · next hb => exact .of_some hs (.stScanHeldBusy hpc hp hpt hb)
        · next hb => exact .of_some hs (.stScanHeldIdle hpc hp hpt (by simpa using hb))
  case stScanRel i found k =>
    split at hs
    · cases hs
    · next p hp =>
      split at hs
      · cases hs
      · next pt hpt => exact .of_some hs (.stScanRel hpc hp hpt)
  case stScanUnlock found k => exact .of_some hs (.stScanUnlock hpc)
  case stReadMax k => exact .of_some hs (.stReadMax hpc)
  case stSpawn m k =>
    split at hs
    · cases hs
    · next hl =>
      split at hs
      · next h => exact .of_some hs (.stSpawn hpc (by simpa using hl) h)
      · next h => exact .of_some hs (.stSpawnFull hpc (by simpa using hl) (by simpa using h))
  case stSpawnRel k => exact .of_some hs (.stSpawnRel hpc)
  case rqCs q k =>
    split at hs
    · cases hs
    · next v hv => exact .of_some hs (.rqCs hpc hv)
  case rqNotifyAcq q todo r k =>
    split at hs
    · cases r <;> simp only [Bool.false_eq_true, ↓reduceIte] at hs
      · exact .of_some hs (.rqNotifiedDone hpc)
      · exact .of_some hs (.rqNotifiedPush hpc)
    · next w rest =>
      split at hs
      · cases hs
      · next h => exact .of_some hs (.rqNotifyAcq hpc (by simpa using h))
  case rqNotify q todo r k =>
    split at hs
    · cases hs
    · exact .of_some hs (.rqNotify hpc)
  case rqNotifyRel q todo r k =>
    split at hs
    · cases hs
    · exact .of_some hs (.rqNotifyRel hpc)
  case rqPush q k =>
    split at hs
    · cases hs
    · next h => exact .of_some hs (.rqPush hpc (by simpa using h))
  case waking todo k =>
    split at hs <;> cases hs
    · exact .wakingDone hpc
    · exact .wakingQueue hpc
    · exact .wakingThread hpc
    · exact .wakingLatch hpc
    · exact .wakingDouble hpc
    · exact .wakingTask hpc
  case openSend g k =>
    split at hs
    · cases hs
    · next gt hg =>
      split at hs
      · next hw => exact .of_some hs (.openSendDone hpc hg hw)
      · next o rest hw =>
        split at hs
        · next hj =>
          split at hs
          · next hu => exact .of_some hs (.openSendGone hpc hg hw hj hu)
          · next u hu =>
            split at hs
            · cases hs
            · next sf hsf =>
              split at hs
              · next w hr => exact .of_some hs (.openSendSfWake hpc hg hw hj hu hsf hr)
              · next hr => exact .of_some hs (.openSendSf hpc hg hw hj hu hsf hr)
        · next j hj =>
          split at hs
          · cases hs
          · next jb hjb =>
            split at hs
            · next w hr => exact .of_some hs (.openSendJobWake hpc hg hw hj hjb hr)
            · next hr => exact .of_some hs (.openSendJob hpc hg hw hj hjb hr)
  case wqCs q k =>
    split at hs
    · cases hs
    · next v hv =>
      cases hs
      cases h : (wakeQueue v.state).2
      · simpa [h] using Step.wqCs hpc hv h
      · simpa [h] using Step.wqCsResched hpc hv h
  case wtCs q th k =>
    split at hs
    · cases hs
    · next v hv => exact .of_some hs (.wtCs hpc hv)
  case wtUnpark th k => exact .of_some hs (.wtUnpark hpc)
  case lwCs l k =>
    split at hs
    · cases hs
    · next st w hl =>
      split at hs
      · next h =>
        split at hs
        · exact .of_some hs (.lwCsWake hpc hl h)
        · exact .of_some hs (.lwCsEmpty hpc hl h)
      · next h => exact .of_some hs (.lwCsKeep hpc hl (by simpa using h))
  case dwCs d k =>
    split at hs
    · cases hs
    · next c hd =>
      split at hs
      · exact .of_some hs (.dwCsWake hpc hd)
      · exact .of_some hs (.dwCsEmpty hpc hd)
  case dsPush q kind =>
    split at hs
    · cases hs
    · next v hv =>
      split at hs
      · next h => exact .of_some hs (.dsPushSchedule hpc hv h)
      · next h1 =>
        split at hs
        · next h => exact .of_some hs (.dsPushNone hpc hv h)
        · next h2 => exact .of_some hs (.dsPushPanic hpc hv (by cases h : (desyncPush v.state).2 <;> simp_all))
  case dsSched q =>
    split at hs
    · cases hs
    · next h => exact .of_some hs (.dsSched hpc (by simpa using h))
  case syDecide q b =>
    split at hs
    · cases hs
    · next v hv =>
      split at hs
      · next h => exact .of_some hs (.syImmediate hpc hv h)
      · next h1 =>
        split at hs
        · next h => exact .of_some hs (.syDrain hpc hv h)
        · next h2 =>
          split at hs
          · next h => exact .of_some hs (.syBackground hpc hv h)
          · next h3 => exact .of_some hs (.syPanic hpc hv h1 h2 h3)
  case tsDecide q b =>
    split at hs
    · cases hs
    · next v hv =>
      split at hs
      · next h => exact .of_some hs (.tsImmediate hpc hv h)
      · next h1 =>
        split at hs
        · next h => exact .of_some hs (.tsBusy hpc hv h)
        · next h2 => exact .of_some hs (.tsPanic hpc hv h1 h2)
  case siIdle q j =>
    split at hs
    · cases hs
    · next jb hj => exact .of_some hs (.siIdle hpc hj)
  case sdPush q b => exact .of_some hs (.sdPush hpc)
  case sdCheck q j =>
    split at hs
    · cases hs
    · next jb hj =>
      split at hs
      · next h => exact .of_some hs (.sdCheckDone hpc hj h)
      · next h => exact .of_some hs (.sdCheckRun hpc hj (by simpa using h))
  case sdIdle q => exact .of_some hs (.sdIdle hpc)
  case sbReg q b =>
    split at hs
    · cases hs
    · next v hv => exact .of_some hs (.sbReg hpc hv)
  case sbPush q b =>
    split at hs
    · cases hs
    · next v hv =>
      split at hs
      · next h => exact .of_some hs (.sbPushIdle hpc hv h)
      · next h => exact .of_some hs (.sbPush hpc hv (by simpa using h))
  case sbLockReady q j =>
    split at hs
    · cases hs
    · next h => exact .of_some hs (.sbLockReady hpc (by simpa using h))
  case sbTest q j =>
    split at hs
    · next h => exact .of_some hs (.sbTestReady hpc h)
    · next h => exact .of_some hs (.sbTest hpc (by simpa using h))
  case sbClaim q j =>
    split at hs
    · cases hs
    · next hl =>
      split at hs
      · cases hs
      · next v hv =>
        split at hs
        · next h => exact .of_some hs (.sbClaimed hpc (by simpa using hl) hv h)
        · next h => exact .of_some hs (.sbClaim hpc (by simpa using hl) hv (by simpa using h))
  case sbClaimRel q j claimed =>
    cases hs
    cases claimed
    · exact .sbClaimRelFalse hpc
    · exact .sbClaimRelTrue hpc
  case sbRelReady q j => exact .of_some hs (.sbRelReady hpc)
  case sbStealTest q j =>
    split at hs
    · cases hs
    · next hh =>
      split at hs
      · next h => exact .of_some hs (.sbStealDone hpc (by simpa using hh) h)
      · next h => exact .of_some hs (.sbSteal hpc (by simpa using hh) (by simpa using h))
  case sbStealIdle q j => exact .of_some hs (.sbStealIdle hpc)
  case sbWait q j => exact .of_some hs (.sbWait hpc)
  case sbWaiting q j =>
    split at hs
    · cases hs
    · next hw =>
      split at hs
      · cases hs
      · next hh => exact .of_some hs (.sbWaiting hpc (by simpa using hw) (by simpa using hh))
  case sbDone q j => exact .of_some hs (.sbDone hpc)
  case sbDropCv q => exact .of_some hs (.sbDropCv hpc)
  case sbPrune q =>
    split at hs
    · cases hs
    · next v hv => exact .of_some hs (.sbPrune hpc hv)
  case rjDequeue q k =>
    split at hs
    · next j hj => exact .of_some hs (.rjDequeue hpc hj)
    · next hj => exact .of_some hs (.rjDequeueNone hpc hj)
  case rjPending q j k =>
    split at hs
    · cases hs
    · next v hv =>
      split at hs
      · next h => exact .of_some hs (.rjPendingPark hpc hv h)
      · next h1 =>
        split at hs
        · next h => exact .of_some hs (.rjPendingContinue hpc hv h)
        · next h2 =>
          have h : (runOnePending v.state).2 = .panic := by cases h : (runOnePending v.state).2 <;> simp_all
          split at hs
          · next jb hj => exact .of_some hs (.rjPendingPanic hpc hv h hj)
          · next hj => exact .of_some hs (.rjPendingPanicNone hpc hv h hj)
  case rjParkCheck q j k =>
    split at hs
    · next h => exact .of_some hs (.rjParkCheckContinue hpc h)
    · next h => exact .of_some hs (.rjParkCheckPark hpc h)
    · next h =>
      split at hs
      · next jb hj => exact .of_some hs (.rjParkCheckPanic hpc h hj)
      · next hj => exact .of_some hs (.rjParkCheckPanicNone hpc h hj)
  case rjPark q j k => exact .of_some hs (.rjPark hpc)
  case rjParked q j k =>
    split at hs
    · next h => exact .of_some hs (.rjParked hpc h)
    · cases hs
  case jobStart j c k =>
    split at hs
    · cases hs
    · next jb hj =>
      split at hs
      · next op hk => exact .of_some hs (.jobStartPlain hpc hj hk)
      · cases hs
      · next o b hk => exact .of_some hs (.jobStartDrain hpc hj hk)
      · next o b hk => exact .of_some hs (.jobStartBg hpc hj hk)
      · next op gate r hk =>
        split at hs
        · next hb => exact .of_some hs (.jobStartFutAgain hpc hj hk hb)
        · next hb => exact .of_some hs (.jobStartFut hpc hj hk (by simpa using hb))
      · next op g r hk => exact .of_some hs (.jobStartAfter hpc hj hk)
      · next u r hk =>
        split at hs
        · next hb => exact .of_some hs (.jobStartSlotAgain hpc hj hk hb)
        · next hb =>
          split at hs
          · cases hs
          · next sf hsf =>
            split at hs
            · next w hw => exact .of_some hs (.jobStartSlotWake hpc hj hk (by simpa using hb) hsf hw)
            · next hw => exact .of_some hs (.jobStartSlot hpc hj hk (by simpa using hb) hsf hw)
      · next op g fs r hk =>
        split at hs
        · next hb => exact .of_some hs (.jobStartSuspAgain hpc hj hk hb)
        · next hb => exact .of_some hs (.jobStartSusp hpc hj hk (by simpa using hb))
  case suspSignal j c k =>
    split at hs
    · cases hs
    · next jb hj =>
      split at hs
      · next op g fs r hk =>
        split at hs
        · cases hs
        · next fu hf =>
          split at hs
          · next w hw => exact .of_some hs (.suspSignalWake hpc hj hk hf hw)
          · next hw => exact .of_some hs (.suspSignal hpc hj hk hf hw)
      · cases hs
  case suspSigDrop j c k =>
    split at hs
    · cases hs
    · next jb hj =>
      split at hs
      · next op g fs r hk => exact .of_some hs (.suspSigDrop hpc hj hk)
      · cases hs
  case jobAwait j c k =>
    split at hs
    · cases hs
    · next jb hj =>
      -- by the kind of the job first: this decides the test `ready` and both inner matches at once
      have plain : s.awaited jb.kind = true → (∀ op g r, jb.kind ≠ .after op g r) → (∀ u r, jb.kind ≠ .slot u r) →
          (∀ op g fs r, jb.kind ≠ .susp op g fs r) → Step s a act (s.goto a (.jobEnd j c k)) := .jobAwaitReady hpc hj
      have pend : s.awaited jb.kind = false → (∀ u r, jb.kind ≠ .slot u r) →
          Step s a act ((s.setJob j { jb with reg := some (ctxWaker act.thread c) }).goto a (ctxPending j k c)) := .jobAwaitPending hpc hj
      cases hk : jb.kind with
      | plain op => simp only [hk, ↓reduceIte] at hs; cases hs; exact plain (by rw [hk]; rfl) (by simp [hk]) (by simp [hk]) (by simp [hk])
      | immediate o b => simp only [hk, ↓reduceIte] at hs; cases hs; exact plain (by rw [hk]; rfl) (by simp [hk]) (by simp [hk]) (by simp [hk])
      | erasedDrain o b => simp only [hk, ↓reduceIte] at hs; cases hs; exact plain (by rw [hk]; rfl) (by simp [hk]) (by simp [hk]) (by simp [hk])
      | erasedBg o b => simp only [hk, ↓reduceIte] at hs; cases hs; exact plain (by rw [hk]; rfl) (by simp [hk]) (by simp [hk]) (by simp [hk])
      | fut op gate r =>
        cases gate with
        | none => simp only [hk, ↓reduceIte] at hs; cases hs; exact plain (by rw [hk]; rfl) (by simp [hk]) (by simp [hk]) (by simp [hk])
        | some g =>
          simp only [hk] at hs
          split at hs
          · next h => cases hs; exact plain (by rw [hk]; exact h) (by simp [hk]) (by simp [hk]) (by simp [hk])
          · next h => cases hs; rw [← hk]; exact pend (by rw [hk]; simpa [State.awaited] using h) (by simp [hk])
      | after op g r =>
        simp only [hk] at hs
        split at hs
        · next h => cases hs; rw [← hk]; exact .jobAwaitAfter hpc hj (by rw [hk]; exact h) hk
        · next h => cases hs; rw [← hk]; exact pend (by rw [hk]; simpa [State.awaited] using h) (by simp [hk])
      | slot u r =>
        simp only [hk] at hs
        split at hs
        · next h => exact .of_some hs (.jobAwaitSlot hpc hj (by rw [hk]; exact h) hk)
        · next h =>
          split at hs
          · next sf hsf => exact .of_some hs (.jobAwaitPendingSlot hpc hj (by rw [hk]; simpa [State.awaited] using h) hk hsf)
          · cases hs
      | susp op g fs r =>
        simp only [hk] at hs
        split at hs
        · next h => exact .of_some hs (.jobAwaitSusp hpc hj (by rw [hk]; exact h) hk)
        · next h => cases hs; rw [← hk]; exact pend (by rw [hk]; simpa [State.awaited] using h) (by simp [hk])
  case jobBodyDone j c k =>
    split at hs
    · cases hs
    · next jb hj =>
      split at hs
      · next o b hk => exact .of_some hs (.jobBodyDoneDrain hpc hj hk)
      · next op g r hk => exact .of_some hs (.jobBodyDoneAfter hpc hj hk)
      · next h1 h2 => exact .of_some hs (.jobBodyDone hpc hj h1 h2)
  case jobEnd j c k =>
    split at hs
    · cases hs
    · next jb hj =>
      split at hs
      · next op g r hk => exact .of_some hs (.jobEnd hpc hj hk)
      · cases hs
  case jobSignal j c k =>
    split at hs
    · cases hs
    · next jb hj =>
      split at hs
      · cases hs
      · next r hr =>
        split at hs
        · cases hs
        · next fu hf =>
          split at hs
          · next w hw => exact .of_some hs (.jobSignalWake hpc hj hr hf hw)
          · next hw => exact .of_some hs (.jobSignal hpc hj hr hf hw)
  case jobSigDrop j c k =>
    split at hs
    · cases hs
    · next jb hj =>
      split at hs
      · cases hs
      · next r hr =>
        split at hs
        · cases hs
        · next fu hf =>
          split at hs
          · next hn =>
            split at hs
            · next w hw => exact .of_some hs (.jobSigDropCancelWake hpc hj hr hf hn hw)
            · next hw => exact .of_some hs (.jobSigDropCancel hpc hj hr hf hn hw)
          · next hn => exact .of_some hs (.jobSigDrop hpc hj hr hf (by simpa using hn))
  case jobDrop j c k =>
    split at hs
    · cases hs
    · next jb hj =>
      split at hs
      · next o b hk =>
        split at hs
        · cases hs
        · next hh => exact .of_some hs (.jobDropBg hpc hj hk (by simpa using hh))
      · next h1 => exact .of_some hs (.jobDrop hpc hj h1)
  case jobDropNotify j c k =>
    split at hs
    · cases hs
    · next jb hj =>
      split at hs
      · next o b hk => exact .of_some hs (.jobDropNotify hpc hj hk)
      · cases hs
  case ptRecv p => exact .of_some hs (.ptRecv hpc)
  case ptRecvd p =>
    split at hs
    · cases hs
    · next pt hp =>
      split at hs
      · next h => exact .of_some hs (.ptRecvd hpc hp h)
      · next h =>
        split at hs
        · next hu => exact .of_some hs (.ptRecvdHungUp hpc hp h hu)
        · cases hs
  case ptLockBusy p =>
    split at hs
    · cases hs
    · next pt hp =>
      split at hs
      · cases hs
      · next h => exact .of_some hs (.ptLockBusy hpc hp (by simpa using h))
  case ptLockSched p =>
    split at hs
    · cases hs
    · next h => exact .of_some hs (.ptLockSched hpc (by simpa using h))
  case ptPop p =>
    split at hs
    · next he => exact .of_some hs (.ptPopEmpty hpc he)
    · next q rest he =>
      split at hs
      · cases hs
      · next v hv =>
        split at hs
        · next h => exact .of_some hs (.ptPopTake hpc he hv h)
        · next h => exact .of_some hs (.ptPopSkip hpc he hv (by simpa using h))
  case ptUnlockSched p got => exact .of_some hs (.ptUnlockSched hpc)
  case ptUnlockBusy p got =>
    split at hs
    · cases hs
    · next pt hp =>
      split at hs
      · exact .of_some hs (.ptUnlockBusyGot hpc hp)
      · exact .of_some hs (.ptUnlockBusyNone hpc hp)
  case pdDequeue p q =>
    split at hs
    · next j hj => exact .of_some hs (.pdDequeue hpc hj)
    · next hj => exact .of_some hs (.pdDequeueNone hpc hj)
  case pdRequeue p q j => exact .of_some hs (.pdRequeue hpc)
  case pdPending p q =>
    split at hs
    · cases hs
    · next v hv =>
      split at hs
      · next h => exact .of_some hs (.pdPendingLeave hpc hv h)
      · next h => exact .of_some hs (.pdPending hpc hv (by simpa using h))
  case pdExit p q =>
    split at hs
    · cases hs
    · next v hv =>
      split at hs
      · next h => exact .of_some hs (.pdExitLeave hpc hv h)
      · next h => exact .of_some hs (.pdExit hpc hv (by simpa using h))
  case pfPoll f =>
    split at hs
    · cases hs
    · next fu hf =>
      split at hs
      · next h => exact .of_some hs (.pfPollReady hpc hf h)
      · next h =>
        have h' : (fu.res == .ok || fu.res == .canceled) = false := by simpa using h
        split at hs
        · cases hs
        · next v hv =>
          split at hs
          · next hd => exact .of_some hs (.pfPollWait hpc hf h' hv hd)
          · next h1 =>
            split at hs
            · next hd => exact .of_some hs (.pfPollDrain hpc hf h' hv hd)
            · next h2 => exact .of_some hs (.pfPollPanic hpc hf h' hv (by cases h : (pollDecide f v.state).2.1 <;> simp_all))
  case pfPollRel f next =>
    split at hs
    · cases hs
    · next fu hf =>
      cases hs
      split
      · simp only [Bool.false_eq_true, ↓reduceIte]; exact .pfPollRelDrain hpc hf
      · next h => simp only [↓reduceIte]; exact .pfPollRel hpc hf (fun f' q e => h f' q e)
  case pfBlocked f =>
    split at hs
    · next h => exact .of_some hs (.pfBlocked hpc h)
    · cases hs
  case pollReady f =>
    split at hs
    · next h => exact .of_some hs (.pollReadyAwait hpc h)
    · next u h => exact .of_some hs (.pollReadySfQueue hpc h)
    · next u h =>
      split at hs
      · cases hs
      · next sf hsf => exact .of_some hs (.pollReadySfSched hpc h hsf)
  case pollPending f =>
    split at hs
    · next h =>
      split at hs
      · next ho => exact .of_some hs (.pollPendingOnce hpc h ho)
      · next ho => exact .of_some hs (.pollPendingAwait hpc h (by simpa using ho))
    · next u h => exact .of_some hs (.pollPendingSfQueue hpc h)
    · next u h => exact .of_some hs (.pollPendingSfSched hpc h)
  case sfPoll u =>
    split at hs
    · cases hs
    · next sf hsf =>
      split at hs
      · next h => exact .of_some hs (.sfPollQueue hpc hsf h)
      · next h => exact .of_some hs (.sfPollFuture hpc hsf h)
      · next h => exact .of_some hs (.sfPollSched hpc hsf h)
      · next h => exact .of_some hs (.sfPollCompleted hpc hsf h)
  case sfRecv u =>
    split at hs
    · cases hs
    · next sf hsf =>
      split at hs
      · next h => exact .of_some hs (.sfRecvReady hpc hsf h)
      · next h => exact .of_some hs (.sfRecv hpc hsf (by simpa using h))
  case sfUser u =>
    split at hs
    · cases hs
    · next sf hsf =>
      split at hs
      · next g hg =>
        split at hs
        · next h => exact .of_some hs (.sfUserReady hpc hsf (by rw [hg]; exact h))
        · next h => exact .of_some hs (.sfUser hpc hsf (by rw [hg]; simpa using h))
      · next hg => simp only [↓reduceIte] at hs; exact .of_some hs (.sfUserReady hpc hsf (by rw [hg]))
  case sfFinish u =>
    split at hs
    · cases hs
    · next sf hsf =>
      split at hs
      · next w hw => exact .of_some hs (.sfFinishWake hpc hsf hw)
      · next hw => exact .of_some hs (.sfFinish hpc hsf hw)
  case sfBlocked u =>
    split at hs
    · next ho => exact .of_some hs (.sfBlockedOnce hpc ho)
    · next ho =>
      split at hs
      · next h => exact .of_some hs (.sfBlocked hpc (by simpa using ho) h)
      · cases hs
  case sfDrop u =>
    split at hs
    · cases hs
    · next sf hsf =>
      split at hs
      · next h => exact .of_some hs (.sfDropCancel hpc hsf h)
      · next h => exact .of_some hs (.sfDrop hpc hsf (by simpa using h))
  case fdDrop f k =>
    split at hs
    · cases hs
    · next fu hf =>
      split at hs
      · cases hs
      · next v hv =>
        split at hs
        · next hd =>
          split at hs
          · next h => exact .of_some hs (.fdDropHandBack hpc hf hv hd h)
          · next h => exact .of_some hs (.fdDropKeep hpc hf hv hd (by simpa using h))
        · next hd => exact .of_some hs (.fdDrop hpc hf hv (by simpa using hd))
  case sfDropDone u =>
    split at hs
    · cases hs
    · next sf hsf =>
      split at hs
      · next w hw => exact .of_some hs (.sfDropDoneWake hpc hsf hw)
      · next hw => exact .of_some hs (.sfDropDone hpc hsf hw)
  case resumeSend op k =>
    split at hs
    · cases hs
    · next j hj =>
      split at hs
      · cases hs
      · next jb hjb =>
        split at hs
        · next o g fs r hk =>
          split at hs
          · cases hs
          · next gt hg =>
            split at hs
            · next w hw => exact .of_some hs (.resumeSendWake hpc hj hjb hk hg hw)
            · next hw => exact .of_some hs (.resumeSend hpc hj hjb hk hg hw)
        · cases hs
  case dqCheck f q =>
    split at hs
    · cases hs
    · next fu hf =>
      split at hs
      · next h => exact .of_some hs (.dqCheckReady hpc hf h)
      · next h => exact .of_some hs (.dqCheck hpc hf (by simpa using h))
  case dqDequeue f q =>
    split at hs
    · next j hj => exact .of_some hs (.dqDequeue hpc hj)
    · next hj => exact .of_some hs (.dqDequeueNone hpc hj)
  case dqRequeue f j l q => exact .of_some hs (.dqRequeue hpc)
  case dqCheck2 f l q =>
    split at hs
    · cases hs
    · next fu hf =>
      split at hs
      · next h => exact .of_some hs (.dqCheck2Ready hpc hf h)
      · next h => exact .of_some hs (.dqCheck2 hpc hf (by simpa using h))
  case dqSetWfw f l q => exact .of_some hs (.dqSetWfw hpc)
  case dqStore f l q =>
    split at hs
    · cases hs
    · next fu hf => exact .of_some hs (.dqStore hpc hf)
  case dqSetWfp f l q => exact .of_some hs (.dqSetWfp hpc)
  case dqWakeWith f l w k =>
    split at hs
    · cases hs
    · next st w0 hl =>
      split at hs
      · next h => exact .of_some hs (.dqWakeWithNow hpc hl h)
      · next h => exact .of_some hs (.dqWakeWith hpc hl (by simpa using h))
  case dqStore2 f q =>
    split at hs
    · cases hs
    · next fu hf => exact .of_some hs (.dqStore2 hpc hf)
  case dqIdle2 f q => exact .of_some hs (.dqIdle2 hpc)
  case dqIdle f q => exact .of_some hs (.dqIdle hpc)
  case fsTake f =>
    split at hs
    · cases hs
    · next fu hf =>
      split at hs
      · next h => exact .of_some hs (.fsTakeReady hpc hf h)
      · next h => exact .of_some hs (.fsTake hpc hf (by simpa using h))
  case smSet n => exact .of_some hs (.smSet hpc)
  case dpRead => exact .of_some hs (.dpRead hpc)
  case dpLock m =>
    split at hs
    · cases hs
    · next h => exact .of_some hs (.dpLock hpc (by simpa using h))
  case dpHang m gone =>
    split at hs
    · next hd =>
      split at hs
      · cases hs
      · next p hp =>
        split at hs
        · cases hs
        · next pt hpt => exact .of_some hs (.dpHang hpc hd hp hpt)
    · next hd => exact .of_some hs (.dpHangDone hpc (by simpa using hd))
  case dpJoin todo =>
    split at hs
    · exact .of_some hs (.dpJoinDone hpc)
    · next p rest =>
      split at hs
      · cases hs
      · next pt hp =>
        split at hs
        · next h => exact .of_some hs (.dpJoin hpc hp h)
        · cases hs

end Desync
