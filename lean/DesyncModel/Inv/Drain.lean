/-
The queue a SchedulerFuture is the designated poller of (C07 / C08, defect F6).

`WaitingForPoll(f)` means: only future `f` may run this queue again.  `Drop for SchedulerFuture` hands such a queue back, but it
looks at the queue only when its own `draining` flag is set.  The invariant: whenever a queue is `WaitingForPoll(f)`, future
`f` exists, belongs to that very queue and has `draining` set — so dropping `f` always releases the queue
(`C07.dropped_poller_hands_back`), and no other future's drop ever touches it.
-/
import DesyncModel.Inv.JobReach
import DesyncModel.Inv.StepTables
namespace Desync
open Gen

def State.futQ (s : State) (f : Nat) : Option Nat := (s.futs[f]?).map (·.q)
def State.futDr (s : State) (f : Nat) : Bool := match s.futs[f]? with | some fu => fu.draining | none => false

theorem futQ_of {s : State} {f : Nat} {fu : Fut} (h : s.futs[f]? = some fu) : s.futQ f = some fu.q := by simp [State.futQ, h]
theorem futDr_of {s : State} {f : Nat} {fu : Fut} (h : s.futs[f]? = some fu) : s.futDr f = fu.draining := by simp [State.futDr, h]

theorem futQ_congr {X s : State} (h : X.futs = s.futs) (f : Nat) : X.futQ f = s.futQ f := by simp only [State.futQ, h]
theorem futDr_congr {X s : State} (h : X.futs = s.futs) (f : Nat) : X.futDr f = s.futDr f := by simp only [State.futDr, h]

theorem futQ_setFut {s : State} {f : Nat} {fu v : Fut} (hf : s.futs[f]? = some fu) (hq : v.q = fu.q) (i : Nat) :
    (s.setFut f v).futQ i = s.futQ i := by
  by_cases h : i = f
  · rw [h, futQ_of hf, ← hq]; exact futQ_of (List.getElem?_set_self (lt_of_getElem?_some hf))
  · simp only [State.futQ, State.setFut, List.getElem?_set_ne (Ne.symm h)]

theorem futDr_setFut {s : State} {f : Nat} {fu : Fut} (hf : s.futs[f]? = some fu) (v : Fut) (i : Nat) :
    (s.setFut f v).futDr i = if i = f then v.draining else s.futDr i := by
  split
  · next h => rw [h]; exact futDr_of (List.getElem?_set_self (lt_of_getElem?_some hf))
  · next h => simp only [State.futDr, State.setFut, List.getElem?_set_ne (Ne.symm h)]

@[simp] theorem futQ_setQ (s : State) (q : Nat) (v : JobQ) (i : Nat) : (s.setQ q v).futQ i = s.futQ i := futQ_congr (futs_setQ s q v) i
@[simp] theorem futQ_setJob (s : State) (j : Nat) (v : Job) (i : Nat) : (s.setJob j v).futQ i = s.futQ i := futQ_congr (futs_setJob s j v) i
@[simp] theorem futQ_setGate (s : State) (g : Nat) (v : Gate) (i : Nat) : (s.setGate g v).futQ i = s.futQ i := futQ_congr (futs_setGate s g v) i
@[simp] theorem futQ_setAct (s : State) (a : Nat) (v : Act) (i : Nat) : (s.setAct a v).futQ i = s.futQ i := futQ_congr (futs_setAct s a v) i
@[simp] theorem futQ_setSf (s : State) (u : Nat) (v : SyncFut) (i : Nat) : (s.setSf u v).futQ i = s.futQ i := futQ_congr (futs_setSf s u v) i
@[simp] theorem futQ_setPThr (s : State) (p : Nat) (v : PThr) (i : Nat) : (s.setPThr p v).futQ i = s.futQ i := futQ_congr (futs_setPThr s p v) i
@[simp] theorem futQ_setHolder (s : State) (q : Nat) (h : Option Nat) (i : Nat) : (s.setHolder q h).futQ i = s.futQ i := futQ_congr (futs_setHolder s q h) i
@[simp] theorem futQ_takeReady (s : State) (w a : Nat) (i : Nat) : (s.takeReady w a).futQ i = s.futQ i := futQ_congr (futs_takeReady s w a) i
@[simp] theorem futQ_dropReady (s : State) (w : Nat) (i : Nat) : (s.dropReady w).futQ i = s.futQ i := futQ_congr (futs_dropReady s w) i
@[simp] theorem futQ_goto (s : State) (a : Nat) (pc : Pc) (i : Nat) : (s.goto a pc).futQ i = s.futQ i := futQ_congr (futs_goto s a pc) i
@[simp] theorem futQ_setWoken (s : State) (a : Nat) (b : Bool) (i : Nat) : (s.setWoken a b).futQ i = s.futQ i := futQ_congr (futs_setWoken s a b) i
@[simp] theorem futQ_notify (s : State) (w : Nat) (i : Nat) : (s.notify w).futQ i = s.futQ i := futQ_congr (futs_notify s w) i
@[simp] theorem futQ_setJobPh (s : State) (j : Nat) (ph : Phase) (i : Nat) : (s.setJobPh j ph).futQ i = s.futQ i := futQ_congr (futs_setJobPh s j ph) i
@[simp] theorem futQ_setQState (s : State) (q : Nat) (st : QState) (i : Nat) : (s.setQState q st).futQ i = s.futQ i := futQ_congr (futs_setQState s q st) i
@[simp] theorem futQ_pushFront (s : State) (q j : Nat) (i : Nat) : (s.pushFront q j).futQ i = s.futQ i := futQ_congr (futs_pushFront s q j) i
@[simp] theorem futQ_pushBack (s : State) (q j : Nat) (i : Nat) : (s.pushBack q j).futQ i = s.futQ i := futQ_congr (futs_pushBack s q j) i
@[simp] theorem futDr_setQ (s : State) (q : Nat) (v : JobQ) (i : Nat) : (s.setQ q v).futDr i = s.futDr i := futDr_congr (futs_setQ s q v) i
@[simp] theorem futDr_setJob (s : State) (j : Nat) (v : Job) (i : Nat) : (s.setJob j v).futDr i = s.futDr i := futDr_congr (futs_setJob s j v) i
@[simp] theorem futDr_setGate (s : State) (g : Nat) (v : Gate) (i : Nat) : (s.setGate g v).futDr i = s.futDr i := futDr_congr (futs_setGate s g v) i
@[simp] theorem futDr_setAct (s : State) (a : Nat) (v : Act) (i : Nat) : (s.setAct a v).futDr i = s.futDr i := futDr_congr (futs_setAct s a v) i
@[simp] theorem futDr_setSf (s : State) (u : Nat) (v : SyncFut) (i : Nat) : (s.setSf u v).futDr i = s.futDr i := futDr_congr (futs_setSf s u v) i
@[simp] theorem futDr_setPThr (s : State) (p : Nat) (v : PThr) (i : Nat) : (s.setPThr p v).futDr i = s.futDr i := futDr_congr (futs_setPThr s p v) i
@[simp] theorem futDr_setHolder (s : State) (q : Nat) (h : Option Nat) (i : Nat) : (s.setHolder q h).futDr i = s.futDr i := futDr_congr (futs_setHolder s q h) i
@[simp] theorem futDr_takeReady (s : State) (w a : Nat) (i : Nat) : (s.takeReady w a).futDr i = s.futDr i := futDr_congr (futs_takeReady s w a) i
@[simp] theorem futDr_dropReady (s : State) (w : Nat) (i : Nat) : (s.dropReady w).futDr i = s.futDr i := futDr_congr (futs_dropReady s w) i
@[simp] theorem futDr_goto (s : State) (a : Nat) (pc : Pc) (i : Nat) : (s.goto a pc).futDr i = s.futDr i := futDr_congr (futs_goto s a pc) i
@[simp] theorem futDr_setWoken (s : State) (a : Nat) (b : Bool) (i : Nat) : (s.setWoken a b).futDr i = s.futDr i := futDr_congr (futs_setWoken s a b) i
@[simp] theorem futDr_notify (s : State) (w : Nat) (i : Nat) : (s.notify w).futDr i = s.futDr i := futDr_congr (futs_notify s w) i
@[simp] theorem futDr_setJobPh (s : State) (j : Nat) (ph : Phase) (i : Nat) : (s.setJobPh j ph).futDr i = s.futDr i := futDr_congr (futs_setJobPh s j ph) i
@[simp] theorem futDr_setQState (s : State) (q : Nat) (st : QState) (i : Nat) : (s.setQState q st).futDr i = s.futDr i := futDr_congr (futs_setQState s q st) i
@[simp] theorem futDr_pushFront (s : State) (q j : Nat) (i : Nat) : (s.pushFront q j).futDr i = s.futDr i := futDr_congr (futs_pushFront s q j) i
@[simp] theorem futDr_pushBack (s : State) (q j : Nat) (i : Nat) : (s.pushBack q j).futDr i = s.futDr i := futDr_congr (futs_pushBack s q j) i

theorem futDr_setFut_keep {s : State} {f : Nat} {fu v : Fut} (hf : s.futs[f]? = some fu) (hd : v.draining = fu.draining) (i : Nat) :
    (s.setFut f v).futDr i = s.futDr i := by
  rw [futDr_setFut hf]
  split
  · next e => rw [e, hd, futDr_of hf]
  · rfl

/-- result slots handed out by a call come after the existing ones -/
theorem futs_append {s X : State} {l : List Fut} (hF : X.futs = s.futs ++ l) (f : Nat) :
    (∀ q, s.futQ f = some q → X.futQ f = some q) ∧ (s.futDr f = true → X.futDr f = true) := by
  cases hx : s.futs[f]? with
  | none => simp [State.futQ, State.futDr, hx]
  | some fu =>
    have e : X.futs[f]? = some fu := by rw [hF, List.getElem?_append_left (lt_of_getElem?_some hx), hx]
    simp [State.futQ, State.futDr, hx, e]

/-! ### no decision table makes a queue wait for a poller it was not already waiting for -/

theorem QState.schedules_wfp {st st' : QState} {f : Nat} (h : st.schedules st' = true) (hp : st' = .waitingForPoll f) :
    st = .waitingForPoll f := by
  cases st <;> simp_all [QState.schedules]
theorem QState.wakes_wfp {st st' : QState} {f : Nat} (h : st.wakes st' = true) (hp : st' = .waitingForPoll f) : st = .waitingForPoll f := by
  cases st <;> simp_all [QState.wakes]
theorem QState.owns_wfp {st st' : QState} {f : Nat} (h : st.owns st' = true) (hp : st' = .waitingForPoll f) : st = .waitingForPoll f := by
  cases st <;> simp_all [QState.owns]

theorem syncNoPanicDecide_wfp {st : QState} {e : Bool} {f : Nat} (h : (syncNoPanicDecide st e).1 = .waitingForPoll f) : st = .waitingForPoll f :=
  entry_eq (syncNoPanicDecide_entry st e) nofun h

theorem wfp_of_set {s Y : State} {q0 : Nat} {v v' : JobQ} (hv : s.qs[q0]? = some v) (hqs : Y.qs = s.qs.set q0 v')
    (htab : ∀ f, v'.state = .waitingForPoll f → v.state = .waitingForPoll f) {q f : Nat} (e : Y.qSt q = some (.waitingForPoll f)) :
    s.qSt q = some (.waitingForPoll f) := by
  rw [qSt_of_set hv hqs] at e
  split at e
  · next eq => rw [eq, qSt_of hv, htab f (Option.some.inj e)]
  · exact e

/-- the pair (future, queue) of the drain the program counter is inside of -/
def Ctx.taskPair : Ctx → Option (Nat × Nat)
  | .task f _ q => some (f, q)
  | _ => none

def Pc.taskPair : Pc → Option (Nat × Nat)
  | .begin _ k | .body _ k => k.taskPair
  | .stReap k | .stScanLock k | .stScan _ k | .stScanHeld _ k | .stScanRel _ _ k
  | .stScanUnlock _ k | .stReadMax k | .stSpawn _ k | .stSpawnRel k => k.taskPair
  | .rqCs _ k | .rqNotifyAcq _ _ _ k | .rqNotify _ _ _ k | .rqNotifyRel _ _ _ k | .rqPush _ k => k.taskPair
  | .resumeSend _ k | .waking _ k | .openSend _ k | .wqCs _ k | .wtCs _ _ k | .wtUnpark _ k | .lwCs _ k | .dwCs _ k => k.taskPair
  | .jobStart _ c _ | .jobAwait _ c _ | .jobBodyDone _ c _ | .jobEnd _ c _ | .jobSignal _ c _
  | .jobSigDrop _ c _ | .jobDrop _ c _ | .jobDropNotify _ c _ | .suspSignal _ c _ | .suspSigDrop _ c _ => c.taskPair
  | .dqCheck f q | .dqDequeue f q | .dqStore2 f q | .dqIdle2 f q | .dqIdle f q => some (f, q)
  | .dqRequeue f _ _ q | .dqCheck2 f _ q | .dqSetWfw f _ q | .dqStore f _ q | .dqSetWfp f _ q => some (f, q)
  | .pfPollRel _ next => next.taskPair
  | .dqWakeWith _ _ _ k => k.taskPair
  | .fdDrop _ k => k.taskPair
  | _ => none

theorem taskPair_ctxReady (k : Pc) (c : Ctx) : (ctxReady k c).taskPair = c.taskPair ∨ (∃ q, c = .caller q) := by
  cases c
  · exact .inr ⟨_, rfl⟩
  · exact .inl rfl
  · exact .inl rfl
theorem taskPair_ctxPending (j : Nat) (k : Pc) (c : Ctx) : (ctxPending j k c).taskPair = c.taskPair := by
  cases c <;> rfl

/-- the future for which the (innermost) program counter is about to write `waitingForPoll` -/
def Pc.wfpOf : Pc → Option Nat
  | .begin _ k | .body _ k => k.wfpOf
  | .stReap k | .stScanLock k | .stScan _ k | .stScanHeld _ k | .stScanRel _ _ k
  | .stScanUnlock _ k | .stReadMax k | .stSpawn _ k | .stSpawnRel k => k.wfpOf
  | .rqCs _ k | .rqNotifyAcq _ _ _ k | .rqNotify _ _ _ k | .rqNotifyRel _ _ _ k | .rqPush _ k => k.wfpOf
  | .resumeSend _ k | .waking _ k | .openSend _ k | .wqCs _ k | .wtCs _ _ k | .wtUnpark _ k | .lwCs _ k | .dwCs _ k => k.wfpOf
  | .dqSetWfp f _ _ => some f
  | .pfPollRel _ next => next.wfpOf
  | .dqWakeWith _ _ _ k => k.wfpOf
  | .fdDrop _ k => k.wfpOf
  | _ => none

@[simp] theorem wfpOf_ctxPending (j : Nat) (k : Pc) (c : Ctx) : (ctxPending j k c).wfpOf = none := by cases c <;> rfl

theorem plainFor_noDrain {q : Nat} {k : Pc} (h : k.plainFor q = true) : k.taskPair = none ∧ k.wfpOf = none := by
  rcases plainFor_cases h with ⟨j, rfl⟩ | ⟨j, rfl⟩ <;> exact ⟨rfl, rfl⟩

/-- a job that is done hands control back to its context: to the drain it was dequeued by, or to a caller or a pool thread, which are
inside no drain -/
theorem ctxReady_drain {k : Pc} {c : Ctx} (hk : (match c with | .caller q => k.plainFor q | _ => true) = true) :
    (∀ f q, (ctxReady k c).taskPair = some (f, q) → c.taskPair = some (f, q)) ∧ ∀ f, (ctxReady k c).wfpOf ≠ some f := by
  cases c with
  | caller q =>
    refine ⟨fun f q' (e : k.taskPair = _) => ?_, fun f (e : k.wfpOf = _) => ?_⟩
    · rw [(plainFor_noDrain hk).1] at e; cases e
    · rw [(plainFor_noDrain hk).2] at e; cases e
  | pool p q => exact ⟨nofun, nofun⟩
  | task f l q => exact ⟨fun _ _ e => e, nofun⟩

theorem wfpOf_holds {pc : Pc} {f : Nat} (h : pc.wfpOf = some f) : ∃ q, pc.taskPair = some (f, q) ∧ pc.holds q = true := by
  -- a head that only carries a continuation passes the question on to it; `dqSetWfp f l q` answers it; no other head announces a write
  fun_induction Pc.wfpOf pc <;> first | exact ‹_ = _ → _› h | (cases h <;> exact ⟨_, rfl, beq_self_eq_true _⟩)

structure DrainInv (s : State) : Prop where
  /-- a program counter inside the drain of future `f` names the queue `f` belongs to -/
  pl : ∀ a f q, (s.pcAt a).taskPair = some (f, q) → s.futQ f = some q
  /-- the flag is up before the state is written -/
  dr : ∀ a f, (s.pcAt a).wfpOf = some f → s.futDr f = true
  /-- a queue waits only for a future of its own whose flag is up -/
  wq : ∀ q f, s.qSt q = some (.waitingForPoll f) → s.futDr f = true ∧ s.futQ f = some q

/-- nothing is waiting for the flag of `f`: no queue, no activity about to make one wait -/
def State.unpolled (s : State) (f : Nat) : Prop :=
  (∀ q, s.qSt q ≠ some (.waitingForPoll f)) ∧ ∀ b, (s.pcAt b).wfpOf ≠ some f

/-- While activity `a` is inside the drain of `f`, before it announces the write of `waitingForPoll f`, nothing waits for the flag of
`f`: `a` owns the run right of `f`'s queue, so the queue is in a held state and nobody else is inside a drain of `f`. -/
theorem DrainInv.exclusive {s : State} (hh : HolderInv s) (h : DrainInv s) {a f q : Nat} (hp : (s.pcAt a).taskPair = some (f, q))
    (hq : (s.pcAt a).holds q = true) (hw : (s.pcAt a).wfpOf ≠ some f) : s.unpolled f := by
  have hfq := h.pl a f q hp
  have hold := (hh.iff a q).mp hq
  refine ⟨fun q' hw' => ?_, fun b hb => ?_⟩
  · have e := (h.wq q' f hw').2
    rw [hfq] at e; cases e
    obtain ⟨v, hv, hst⟩ := qSt_some hw'
    have := hh.held a q v hold hv
    rw [hst] at this; cases this
  · obtain ⟨q', hp', hq'⟩ := wfpOf_holds hb
    have e := h.pl b f q' hp'
    rw [hfq] at e; cases e
    have hb' := (hh.iff b q).mp hq'
    rw [hold] at hb'; cases hb'
    exact hw hb

/-- Nothing the invariant relies on is lost: a slot keeps its queue; a flag stays up unless nothing waits for it; a pair, an announced
write or a waiting queue that is new comes with its justification. -/
theorem DrainInv.step {s X : State} (h : DrainInv s)
    (hfq : ∀ f q, s.futQ f = some q → X.futQ f = some q)
    (hfd : ∀ f, s.futDr f = true → X.futDr f = true ∨ s.unpolled f)
    (hpl : ∀ b f q, (X.pcAt b).taskPair = some (f, q) → (s.pcAt b).taskPair = some (f, q) ∨ X.futQ f = some q)
    (hdr : ∀ b f, (X.pcAt b).wfpOf = some f → (s.pcAt b).wfpOf = some f ∨ X.futDr f = true)
    (hwq : ∀ q f, X.qSt q = some (.waitingForPoll f) → s.qSt q = some (.waitingForPoll f) ∨ (X.futDr f = true ∧ X.futQ f = some q)) :
    DrainInv X := by
  refine ⟨fun b f q e => (hpl b f q e).elim (fun e => hfq f q (h.pl b f q e)) id, fun b f e => (hdr b f e).elim (fun e => ?_) id,
    fun q f e => (hwq q f e).elim (fun e => ⟨?_, hfq f q (h.wq q f e).2⟩) id⟩
  · exact (hfd f (h.dr b f e)).resolve_right fun hu => hu.2 b e
  · exact (hfd f (h.wq q f e).1).resolve_right fun hu => hu.1 q e

/-- the same with a mover: `a` goes from `pc` to `pc'`, the others stay where they are, but for the pool thread a step may start -/
theorem DrainInv.move {s X : State} {a : Nat} {pc pc' : Pc} (h : DrainInv s) (hpca : s.pcAt a = pc) (hself : X.pcAt a = pc')
    (hoth : ∀ b, b ≠ a → X.pcAt b = s.pcAt b ∨ (b = s.acts.length ∧ ∃ p, X.pcAt b = .ptRecv p))
    (hfq : ∀ f, X.futQ f = s.futQ f)
    (hfd : ∀ f, s.futDr f = true → X.futDr f = true ∨ s.unpolled f)
    (hpl : ∀ f q, pc'.taskPair = some (f, q) → pc.taskPair = some (f, q) ∨ s.futQ f = some q)
    (hdr : ∀ f, pc'.wfpOf = some f → pc.wfpOf = some f ∨ X.futDr f = true)
    (hwq : ∀ q f, X.qSt q = some (.waitingForPoll f) → s.qSt q = some (.waitingForPoll f) ∨ (X.futDr f = true ∧ s.futQ f = some q)) :
    DrainInv X := by
  refine h.step (fun f q e => (hfq f).trans e) hfd (fun b f q e => ?_) (fun b f e => ?_) (fun q f e => by rw [hfq]; exact hwq q f e)
  · by_cases hb : b = a
    · subst hb; rw [hself] at e; rw [hpca, hfq]; exact hpl f q e
    · rcases hoth b hb with e' | ⟨-, p, e'⟩ <;> rw [e'] at e
      · exact .inl e
      · cases e
  · by_cases hb : b = a
    · subst hb; rw [hself] at e; rw [hpca]; exact hdr f e
    · rcases hoth b hb with e' | ⟨-, p, e'⟩ <;> rw [e'] at e
      · exact .inl e
      · cases e

/-- `DrainInv.move` for a rule that rewrites the mover's record in a state `Y` with the activities of `s`: what the rule did to the
slots and the queues is said of `Y` -/
theorem DrainInv.setAct {s Y : State} {a : Nat} {act v : Act} {pc : Pc} (h : DrainInv s) (ha : s.acts[a]? = some act) (hpc : act.pc = pc)
    (hacts : Y.acts = s.acts)
    (hfq : ∀ f, Y.futQ f = s.futQ f)
    (hfd : ∀ f, s.futDr f = true → Y.futDr f = true ∨ s.unpolled f)
    (hpl : ∀ f q, v.pc.taskPair = some (f, q) → pc.taskPair = some (f, q) ∨ s.futQ f = some q)
    (hdr : ∀ f, v.pc.wfpOf = some f → pc.wfpOf = some f ∨ Y.futDr f = true)
    (hwq : ∀ q f, Y.qSt q = some (.waitingForPoll f) → s.qSt q = some (.waitingForPoll f) ∨ (Y.futDr f = true ∧ s.futQ f = some q)) :
    DrainInv (Y.setAct a v) :=
  h.move ((pcAt_of ha).trans hpc) (pcAt_setAct_self v (hacts ▸ lt_of_getElem?_some ha))
    (fun b hb => .inl ((pcAt_setAct_ne v hb).trans (pcAt_congr hacts b)))
    (fun f => (futQ_setAct Y a v f).trans (hfq f)) (fun f e => by rw [futDr_setAct]; exact hfd f e) hpl
    (fun f e => by rw [futDr_setAct]; exact hdr f e) (fun q f e => by rw [futDr_setAct]; rw [qSt_setAct] at e; exact hwq q f e)

theorem DrainInv.goto {s Y : State} {a : Nat} {act : Act} {pc pc' : Pc} (h : DrainInv s) (ha : s.acts[a]? = some act) (hpc : act.pc = pc)
    (hacts : Y.acts = s.acts)
    (hfq : ∀ f, Y.futQ f = s.futQ f)
    (hfd : ∀ f, s.futDr f = true → Y.futDr f = true ∨ s.unpolled f)
    (hpl : ∀ f q, pc'.taskPair = some (f, q) → pc.taskPair = some (f, q) ∨ s.futQ f = some q)
    (hdr : ∀ f, pc'.wfpOf = some f → pc.wfpOf = some f ∨ Y.futDr f = true)
    (hwq : ∀ q f, Y.qSt q = some (.waitingForPoll f) → s.qSt q = some (.waitingForPoll f) ∨ (Y.futDr f = true ∧ s.futQ f = some q)) :
    DrainInv (Y.goto a pc') := by
  rw [goto_eq_setAct pc' (hacts ▸ ha : Y.acts[a]? = some act)]
  exact h.setAct ha hpc hacts hfq hfd hpl hdr hwq

theorem DrainInv.move_frame {s X : State} {a : Nat} {pc pc' : Pc} (h : DrainInv s) (hpca : s.pcAt a = pc) (hself : X.pcAt a = pc')
    (hoth : ∀ b, b ≠ a → X.pcAt b = s.pcAt b ∨ (b = s.acts.length ∧ ∃ p, X.pcAt b = .ptRecv p))
    (hpl : ∀ f q, pc'.taskPair = some (f, q) → pc.taskPair = some (f, q)) (hdr : ∀ f, pc'.wfpOf = some f → pc.wfpOf = some f)
    (hfuts : X.futs = s.futs) (hq : ∀ q, X.qSt q = s.qSt q) : DrainInv X :=
  h.move hpca hself hoth (futQ_congr hfuts) (fun f e => .inl ((futDr_congr hfuts f).trans e)) (fun f q e => .inl (hpl f q e))
    (fun f e => .inl (hdr f e)) (fun q _ e => .inl ((hq q).symm.trans e))

theorem DrainInv.goto_frame {s Y : State} {a : Nat} {act : Act} {pc pc' : Pc} (h : DrainInv s) (ha : s.acts[a]? = some act) (hpc : act.pc = pc)
    (hpl : ∀ f q, pc'.taskPair = some (f, q) → pc.taskPair = some (f, q)) (hdr : ∀ f, pc'.wfpOf = some f → pc.wfpOf = some f)
    (hacts : Y.acts = s.acts) (hfuts : Y.futs = s.futs) (hq : ∀ q, Y.qSt q = s.qSt q) : DrainInv (Y.goto a pc') :=
  h.goto ha hpc hacts (futQ_congr hfuts) (fun f e => .inl ((futDr_congr hfuts f).trans e)) (fun f q e => .inl (hpl f q e))
    (fun f e => .inl (hdr f e)) (fun q _ e => .inl ((hq q).symm.trans e))

theorem DrainInv.goto_write {s Y : State} {a q0 : Nat} {act : Act} {pc pc' : Pc} {v v' : JobQ} (h : DrainInv s) (ha : s.acts[a]? = some act)
    (hpc : act.pc = pc) (hv : s.qs[q0]? = some v) (htab : ∀ f, v'.state = .waitingForPoll f → v.state = .waitingForPoll f)
    (hpl : ∀ f q, pc'.taskPair = some (f, q) → pc.taskPair = some (f, q) ∨ s.futQ f = some q) (hdr : ∀ f, pc'.wfpOf = some f → pc.wfpOf = some f)
    (hacts : Y.acts = s.acts) (hfuts : Y.futs = s.futs) (hqs : Y.qs = s.qs.set q0 v') : DrainInv (Y.goto a pc') :=
  h.goto ha hpc hacts (futQ_congr hfuts) (fun f e => .inl ((futDr_congr hfuts f).trans e)) hpl (fun f e => .inl (hdr f e))
    (fun _ _ e => .inl (wfp_of_set hv hqs htab e))

/-- `goto_write` for a rule whose new program counter is, to `taskPair` and `wfpOf`, the old one; the fact about the table comes last -/
theorem DrainInv.table {s Y : State} {a q0 : Nat} {act : Act} {pc pc' : Pc} {v v' : JobQ} (h : DrainInv s) (ha : s.acts[a]? = some act)
    (hpc : act.pc = pc) (hv : s.qs[q0]? = some v) (hpl : pc'.taskPair = pc.taskPair) (hdr : pc'.wfpOf = pc.wfpOf)
    (hacts : Y.acts = s.acts) (hfuts : Y.futs = s.futs) (hqs : Y.qs = s.qs.set q0 v')
    (htab : ∀ f, v'.state = .waitingForPoll f → v.state = .waitingForPoll f) : DrainInv (Y.goto a pc') :=
  h.goto_write ha hpc hv htab (fun _ _ e => .inl (hpl ▸ e)) (fun _ e => hdr ▸ e) hacts hfuts hqs

/-- The owner writes the word `st` it leaves queue `q` with, gives the run right up and goes on outside every drain.  If the word
designates a poller, the owner has announced that write from inside the drain of that future.  (The lemmas about `setQState` apply
to this post-state only after `setHolder` is unfolded, which is slow to check: here that happens once.) -/
theorem DrainInv.goto_leave {s Z : State} {a q : Nat} {st : QState} {act : Act} {pc pc' : Pc} (h : DrainInv s) (ha : s.acts[a]? = some act)
    (hpc : act.pc = pc) (hpl : pc'.taskPair = none) (hdr : pc'.wfpOf = none)
    (hst : ∀ f, st = .waitingForPoll f → pc.wfpOf = some f ∧ pc.taskPair = some (f, q))
    (hacts : Z.acts = s.acts) (hfuts : Z.futs = s.futs) (hq : ∀ i, Z.qSt i = s.qSt i) :
    DrainInv (((Z.setQState q st).setHolder q none).goto a pc') := by
  have hpca := (pcAt_of ha).trans hpc
  have hF : ((Z.setQState q st).setHolder q none).futs = s.futs := (futs_setQState Z q st).trans hfuts
  refine h.goto ha hpc ((acts_setQState Z q st).trans hacts) (futQ_congr hF) (fun f e => .inl ((futDr_congr hF f).trans e))
    (fun f q' e => by rw [hpl] at e; cases e) (fun f e => by rw [hdr] at e; cases e) (fun i f e => ?_)
  rcases qSt_setQState_at (s := Z) e with ⟨rfl, e'⟩ | e'
  · obtain ⟨h1, h2⟩ := hst f e'.symm
    exact .inr ⟨(futDr_congr hF f).trans (h.dr a f (hpca ▸ h1)), h.pl a f _ (hpca ▸ h2)⟩
  · exact .inl ((hq i).symm.trans e')

theorem Step.drainInv {s s' : State} {a : Nat} {act : Act} (hh : HolderInv s) (hw : WfInv s) (h : DrainInv s) (ha : s.acts[a]? = some act)
    (hst : Step s a act s') : DrainInv s' := by
  have hpca := pcAt_of ha
  have hne := fun b (hb : b ≠ a) => hst.pcAt_ne hb
  have hlt' := hst.lt_acts ha
  have hwa : act.pc.callerOk = true := hpca ▸ hw a
  -- a step inside the drain of `f` that writes the slot of `f`: a flag that comes down is one nothing waits for
  have flag : ∀ {pc : Pc} {f q : Nat} {fu : Fut} (v : Fut), act.pc = pc → pc.taskPair = some (f, q) → pc.holds q = true → pc.wfpOf = none →
      s.futs[f]? = some fu → ∀ i, s.futDr i = true → (s.setFut f v).futDr i = true ∨ s.unpolled i := by
    intro pc f q fu v hpc hp hq hn hf i e
    by_cases hi : i = f
    · subst hi
      exact .inr (h.exclusive hh (a := a) (q := q) (by rw [hpca, hpc]; exact hp) (by rw [hpca, hpc]; exact hq) (by rw [hpca, hpc, hn]; nofun))
    · rw [futDr_setFut hf, if_neg hi]; exact .inl e
  cases hst
  -- the drain of `f`: it looks at the result slot, and raises the flag of `f` before it leaves the queue waiting for `f`
  case dqCheckReady hpc hf _ | dqCheck2Ready hpc hf _ =>
    exact h.setAct ha hpc rfl (futQ_setFut hf rfl) (flag _ hpc rfl (beq_self_eq_true _) rfl hf) (fun _ _ e => .inl e) nofun (fun _ _ e => .inl e)
  case dqStore2 hpc hf =>
    exact h.goto ha hpc rfl (futQ_setFut hf rfl) (flag _ hpc rfl (beq_self_eq_true _) rfl hf) (fun _ _ e => .inl e) nofun (fun _ _ e => .inl e)
  case dqStore hpc hf =>
    exact h.goto ha hpc rfl (futQ_setFut hf rfl) (flag _ hpc rfl (beq_self_eq_true _) rfl hf) (fun _ _ e => .inl e)
      (fun _ e => .inr (by cases e; rw [futDr_setFut hf, if_pos rfl])) (fun _ _ e => .inl e)
  case dqSetWfp hpc =>
    exact h.goto_leave ha hpc rfl rfl (fun _ e => by cases e; exact ⟨rfl, rfl⟩) rfl rfl (fun _ => rfl)
  -- the owner writes another state it leaves its queue in
  case siIdle hpc _ | sdIdle hpc | sbStealIdle hpc | dqSetWfw hpc | dqIdle2 hpc | dqIdle hpc =>
    exact h.goto_leave ha hpc rfl rfl nofun rfl rfl (fun _ => rfl)
  -- `poll` of the designated poller enters the drain of its own queue
  case pfPollDrain hpc hf _ hv _ =>
    exact h.goto_write ha hpc hv (fun _ hp => entry_eq (pollDecide_entry _ _) nofun hp) (fun _ _ e => .inr (by cases e; exact futQ_of hf)) nofun rfl rfl rfl
  -- the tables, by role.  Scheduling calls and hand-backs:
  case dsPushSchedule hpc hv _ | dsPushNone hpc hv _ | dsPushPanic hpc hv _ =>
    exact h.table ha hpc hv rfl rfl rfl rfl rfl fun _ => QState.schedules_wfp (desyncPush_schedules _)
  case rqCs hpc hv =>
    exact h.table ha hpc hv rfl rfl rfl rfl rfl fun _ => QState.schedules_wfp (reschedule_schedules _ _)
  -- wake-ups and the drop of the designated poller
  case wqCsResched hpc hv _ | wqCs hpc hv _ =>
    exact h.table ha hpc hv rfl rfl rfl rfl rfl fun _ => QState.wakes_wfp (wakeQueue_wakes _)
  case wtCs hpc hv =>
    exact h.table ha hpc hv rfl rfl rfl rfl rfl fun _ => QState.wakes_wfp (wakeThread_wakes _)
  case fdDropHandBack hpc _ hv _ _ =>
    exact h.table ha hpc hv rfl rfl rfl rfl rfl fun _ => QState.wakes_wfp (futureDropDecide_wakes _ _)
  -- entry tables
  case syImmediate hpc hv _ | syDrain hpc hv _ | syBackground hpc hv _ | syPanic hpc hv _ _ _ =>
    exact h.table ha hpc hv rfl rfl rfl rfl rfl fun _ => entry_eq (syncDecide_entry _ _) nofun
  case tsImmediate hpc hv _ | tsPanic hpc hv _ _ =>
    exact h.table ha hpc hv rfl rfl rfl rfl rfl fun _ => entry_eq (trySyncDecide_entry _ _) nofun
  case tsBusy hpc hv _ =>
    exact h.setAct ha hpc rfl (fun _ => rfl) (fun _ e => .inl e) (fun _ _ e => .inl e) nofun
      (fun _ _ e => .inl (wfp_of_set hv rfl (fun _ hp => entry_eq (trySyncDecide_entry _ _) nofun hp) e))
  case sbClaimed hpc _ hv _ | sbClaim hpc _ hv _ =>
    exact h.table ha hpc hv rfl rfl rfl rfl rfl fun _ => entry_eq (claim_entry _) nofun
  case ptPopTake hpc _ hv _ | ptPopSkip hpc _ hv _ =>
    exact h.table ha hpc hv rfl rfl rfl rfl rfl fun _ => entry_eq (nextToRun_entry _) nofun
  case pfPollWait hpc _ _ hv _ | pfPollPanic hpc _ _ hv _ =>
    exact h.table ha hpc hv rfl rfl rfl rfl rfl fun _ => entry_eq (pollDecide_entry _ _) nofun
  -- the owner's tables
  case pdPendingLeave hpc hv _ | pdPending hpc hv _ =>
    exact h.table ha hpc hv rfl rfl rfl rfl rfl fun _ => QState.owns_wfp (drainPending_owns _)
  case pdExitLeave hpc hv _ | pdExit hpc hv _ =>
    exact h.table ha hpc hv rfl rfl rfl rfl rfl fun _ => QState.owns_wfp (drainExit_owns _ _)
  case rjPendingPark hpc hv _ | rjPendingContinue hpc hv _ | rjPendingPanic hpc hv _ _ | rjPendingPanicNone hpc hv _ _ =>
    exact h.table ha hpc hv rfl rfl rfl rfl rfl fun _ => QState.owns_wfp (runOnePending_owns _)
  -- the record of a queue changes (waiters, job list), its word does not
  case sbReg hpc hv | sbPushIdle hpc hv _ | sbPush hpc hv _ =>
    exact h.goto_frame ha hpc (fun _ _ e => e) (fun _ e => e) rfl rfl (qSt_setQ_keep rfl hv (by rfl))
  case sbPrune hpc hv =>
    exact h.move_frame (hpca.trans hpc) (pcAt_goto_self .ret (lt_of_getElem?_some ha)) hne nofun nofun (futs_goto s a .ret)
      (qSt_setQ_keep (qs_goto s a .ret) hv (by rfl))
  case rjDequeue hpc _ | pdDequeue hpc _ | pdDequeueNone hpc _ | dqDequeue hpc _ | dqDequeueNone hpc _ =>
    exact h.goto_frame ha hpc (fun _ _ e => e) (fun _ e => e) (dequeue_acts _ _ _) (futs_dequeue _ _ _) (qSt_dequeue _ _ _)
  case sdPush hpc =>
    exact h.goto_frame ha hpc (fun _ _ e => e) (fun _ e => e) (acts_pushBack _ _ _) (futs_pushBack _ _ _) (qSt_pushBack _ _ _)
  case pdRequeue hpc | dqRequeue hpc =>
    exact h.goto_frame ha hpc (fun _ _ e => e) (fun _ e => e) ((acts_setJobPh _ _ _).trans (acts_pushFront _ _ _))
      ((futs_setJobPh _ _ _).trans (futs_pushFront _ _ _)) (fun q => (qSt_setJobPh _ _ _ q).trans (qSt_pushFront _ _ _ q))
  -- a slot is written, its queue and its flag are not
  case suspSignalWake | suspSignal | jobSignalWake | jobSignal | jobSigDropCancelWake | jobSigDropCancel | pfPollRel =>
    have hpc := ‹act.pc = _›
    have hf := ‹s.futs[_]? = some _›
    exact h.goto ha hpc rfl (futQ_setFut hf rfl) (fun _ e => .inl ((futDr_setFut_keep hf (by rfl) _).trans e)) (fun _ _ e => .inl e) (fun _ e => .inl e)
      (fun _ _ e => .inl e)
  case beginTake hpc hf =>
    exact h.goto ha hpc rfl (futQ_setFut hf (by split <;> rfl)) (fun _ e => .inl ((futDr_setFut_keep hf (by split <;> rfl) _).trans e))
      (fun _ _ e => .inl e) (fun _ e => .inl e) (fun _ _ e => .inl e)
  case pfPollReady hpc hf _ | fsTakeReady hpc hf _ =>
    exact h.setAct ha hpc rfl (futQ_setFut hf rfl) (fun _ e => .inl ((futDr_setFut_keep hf (by rfl) _).trans e)) nofun nofun (fun _ _ e => .inl e)
  -- control goes back to a continuation: the callers of `run_one_job_now` are inside no drain
  case rjDequeueNone q k hpc _ =>
    have hk : k.plainFor q = true := by rw [hpc] at hwa; exact hwa
    exact h.goto_frame ha hpc (fun _ _ e => by rw [(plainFor_noDrain hk).1] at e; cases e) (fun _ e => by rw [(plainFor_noDrain hk).2] at e; cases e)
      (dequeue_acts _ _ _) (futs_dequeue _ _ _) (qSt_dequeue _ _ _)
  case jobDrop hpc _ _ =>
    rw [hpc] at hwa
    exact h.goto_frame ha hpc (ctxReady_drain hwa).1 (fun f e => ((ctxReady_drain hwa).2 f e).elim) rfl rfl (fun _ => rfl)
  case jobDropNotify hpc _ _ =>
    rw [hpc] at hwa
    exact h.move_frame (hpca.trans hpc) (pcAt_goto_of_lt hlt') hne (ctxReady_drain hwa).1 (fun f e => ((ctxReady_drain hwa).2 f e).elim) (by simp) (qSt_congr (by simp))
  case jobAwaitPendingSlot j c k _ _ _ _ hpc _ _ _ _ | jobAwaitPending j c k _ hpc _ _ _ =>
    exact h.goto_frame ha hpc (fun _ _ e => (taskPair_ctxPending j k c).symm.trans e) (fun _ e => by rw [wfpOf_ctxPending] at e; cases e)
      rfl rfl (fun _ => rfl)
  -- an activity record changes (`woken`, the new pool thread)
  case stSpawn hpc _ _ | rqNotify hpc | sbWait hpc | sbWaiting hpc _ _ =>
    exact h.move_frame (hpca.trans hpc) (pcAt_goto_of_lt hlt') hne (fun _ _ e => e) (fun _ e => e) (by simp) (qSt_congr (by simp))
  case pollReadySfSched hpc _ _ | pollPendingOnce hpc _ _ | sfPollQueue hpc _ _ | sfPollSched hpc _ _ | sfPollCompleted hpc _ _ | sfBlockedOnce hpc _ =>
    exact h.setAct ha hpc rfl (fun _ => rfl) (fun _ e => .inl e) nofun nofun (fun _ _ e => .inl e)
  -- Every other rule goes on from `s` with fields updated that the invariant does not read, to a program counter that is inside the
  -- drain the old one is inside of, or inside none.
  case jobStartFut hpc _ _ _ | sfRecvReady hpc _ _ =>
    exact h.goto_frame ha hpc (fun _ _ e => e) (fun _ e => e) (acts_regGate _ _ _) (futs_regGate _ _ _) (qSt_regGate _ _ _)
  all_goals
    have hpc := ‹act.pc = _›
    exact h.goto_frame ha hpc (fun _ _ e => e) (fun _ e => e) rfl rfl (fun _ => rfl)

theorem Starts.noDrain {s s0 : State} {c : Call} {pc : Pc} {once : Bool} (h : Starts s c s0 pc once) : pc.taskPair = none ∧ pc.wfpOf = none := by
  cases h <;> exact ⟨rfl, rfl⟩

/-- no move of the environment takes an activity into a drain -/
theorem drain_envPcRel : EnvPcRel fun pc pc' =>
    (∀ f q, pc'.taskPair = some (f, q) → pc.taskPair = some (f, q)) ∧ ∀ f, pc'.wfpOf = some f → pc.wfpOf = some f where
  refl _ := ⟨fun _ _ e => e, fun _ e => e⟩
  body _ _ := ⟨fun _ _ e => e, fun _ e => e⟩
  parked _ _ _ := ⟨nofun, nofun⟩
  pfBlocked _ := ⟨nofun, nofun⟩
  sfBlocked _ := ⟨nofun, nofun⟩
  ret := ⟨nofun, nofun⟩
  entry hst := ⟨fun _ _ e => (by rw [hst.noDrain.1] at e; cases e), fun _ e => (by rw [hst.noDrain.2] at e; cases e)⟩

theorem EnvStep.drainInv {s s' : State} {l : Label} (h : DrainInv s) (he : EnvStep s l s') : DrainInv s' := by
  obtain ⟨lf, ls, hF, -⟩ := he.futs_sfs
  exact h.step (fun f => (futs_append hF f).1) (fun f e => .inl ((futs_append hF f).2 e))
    (fun b f q e => .inl ((he.pcAt_rel drain_envPcRel b).1 f q e)) (fun b f e => .inl ((he.pcAt_rel drain_envPcRel b).2 f e))
    (fun q _ e => .inl ((qSt_congr he.sameCore.qs q).symm.trans e))

theorem drainInv_of_empty {s : State} (ha : s.acts = []) (hq : ∀ q f, s.qSt q ≠ some (.waitingForPoll f)) : DrainInv s := by
  have hpc := pcAt_of_nil ha
  exact ⟨fun a f q e => (by rw [hpc] at e; cases e), fun a f e => (by rw [hpc] at e; cases e), fun q f e => (hq q f e).elim⟩

theorem drainInv_initP (ps : List Bool) (ng max : Nat) : DrainInv (initStateP ps ng max) :=
  drainInv_of_empty rfl fun q f e => by rcases qSt_initP e with h | h <;> cases h

theorem drainInv_reachable {s : State} (hr : Reachable s) : DrainInv s :=
  hr.invariant drainInv_initP
    (fun hr h ha _ hst => hst.drainInv (holderInv_reachable hr) (fullInv_reachable hr).1 h ha) (fun _ h he => he.drainInv h)

/-- **A queue that waits to be polled waits for a future of its own whose `draining` flag is set**, in every reachable state:
so `Drop for SchedulerFuture`, which looks at the queue only when the flag is set, never overlooks the queue it is the
designated poller of (`C07.dropped_poller_hands_back` then says the queue is handed back). -/
theorem designated_poller_is_draining {s : State} (hr : Reachable s) {q f : Nat} {v : JobQ}
    (hv : s.qs[q]? = some v) (hst : v.state = .waitingForPoll f) :
    ∃ fu, s.futs[f]? = some fu ∧ fu.draining = true ∧ fu.q = q := by
  have h := (drainInv_reachable hr).wq q f (by rw [qSt_of hv, hst])
  cases hf : s.futs[f]? with
  | none => rw [State.futQ, hf] at h; cases h.2
  | some fu => exact ⟨fu, rfl, (futDr_of hf).symm.trans h.1, Option.some.inj ((futQ_of hf).symm.trans h.2)⟩

end Desync
