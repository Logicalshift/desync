/-
Job-level vocabulary: which job an activity is running, for which queue, and the shape of caller-side continuations; the
projections of the state that the job invariants read — phase and queue of a job, the job list of a queue, whether a job has
begun, has ended, is open — and how they follow the job table and the queues.
-/
import DesyncModel.Inv.Holder

namespace Desync
open Gen

/-- the queue a job-running context works for -/
def Ctx.q : Ctx → Nat
  | .caller q => q
  | .pool _ q => q
  | .task _ _ q => q

/-- The job an activity is running right now, and the queue it runs it for (looking through the pcs that only carry a
continuation).  A job is "being run" from the critical section that dequeued it (or created it, for sync_immediate)
to the one that requeues it, finishes it or destroys it. -/
def Pc.runningQ : Pc → Option (Nat × Nat)
  | .begin _ k | .body _ k => k.runningQ
  | .stReap k | .stScanLock k | .stScan _ k | .stScanHeld _ k | .stScanRel _ _ k
  | .stScanUnlock _ k | .stReadMax k | .stSpawn _ k | .stSpawnRel k => k.runningQ
  | .rqCs _ k | .rqNotifyAcq _ _ _ k | .rqNotify _ _ _ k | .rqNotifyRel _ _ _ k | .rqPush _ k => k.runningQ
  | .resumeSend _ k | .waking _ k | .openSend _ k | .wqCs _ k | .wtCs _ _ k | .wtUnpark _ k | .lwCs _ k | .dwCs _ k => k.runningQ
  | .rjPending q j _ | .rjParkCheck q j _ | .rjPark q j _ | .rjParked q j _ => some (j, q)
  | .jobStart j c _ | .jobAwait j c _ | .jobBodyDone j c _ | .jobEnd j c _ | .jobSignal j c _
  | .jobSigDrop j c _ | .jobDrop j c _ | .suspSignal j c _ | .suspSigDrop j c _ => some (j, c.q)
  | .pdRequeue _ q j => some (j, q)
  | .dqRequeue _ j _ q => some (j, q)
  | .siIdle q j => some (j, q)
  | .pfPollRel _ next => next.runningQ
  | .dqWakeWith _ _ _ k => k.runningQ
  | .fdDrop _ k => k.runningQ
  | _ => none

/-- lifetime-erased jobs are created by `sync` only (never through `schedule_job_desync`) -/
def JobKind.isErased : JobKind → Bool
  | .erasedDrain _ _ | .erasedBg _ _ => true
  | _ => false

/-- a continuation of run_one_job_now's callers: sync_drain's or sync_background's loop on queue `q` -/
def Pc.plainFor (q : Nat) : Pc → Bool
  | .sdCheck q' _ => q' == q
  | .sbStealTest q' _ => q' == q
  | _ => false

/-- every caller-side job-running pc inside carries a plain continuation for its own queue -/
def Pc.callerOk : Pc → Bool
  | .begin _ k | .body _ k | .unwinding k => k.callerOk
  | .stReap k | .stScanLock k | .stScan _ k | .stScanHeld _ k | .stScanRel _ _ k
  | .stScanUnlock _ k | .stReadMax k | .stSpawn _ k | .stSpawnRel k => k.callerOk
  | .rqCs _ k | .rqNotifyAcq _ _ _ k | .rqNotify _ _ _ k | .rqNotifyRel _ _ _ k | .rqPush _ k => k.callerOk
  | .resumeSend _ k | .waking _ k | .openSend _ k | .wqCs _ k | .wtCs _ _ k | .wtUnpark _ k | .lwCs _ k | .dwCs _ k => k.callerOk
  | .rjDequeue q k | .rjPending q _ k | .rjParkCheck q _ k | .rjPark q _ k | .rjParked q _ k => k.plainFor q
  | .jobStart _ c k | .jobAwait _ c k | .jobBodyDone _ c k | .jobEnd _ c k | .jobSignal _ c k
  | .jobSigDrop _ c k | .jobDrop _ c k | .jobDropNotify _ c k | .suspSignal _ c k | .suspSigDrop _ c k =>
      (match c with | .caller q => k.plainFor q | _ => true)
  | .pfPollRel _ next => next.callerOk
  | .dqWakeWith _ _ _ k => k.callerOk
  | .fdDrop _ k => k.callerOk
  | .dsPush _ kind => !kind.isErased
  | _ => true

theorem plainFor_cases {q : Nat} {k : Pc} (h : k.plainFor q = true) : (∃ j, k = .sdCheck q j) ∨ (∃ j, k = .sbStealTest q j) := by
  revert h
  fun_cases Pc.plainFor q k <;> intro h
  · cases eq_of_beq h; exact .inl ⟨_, rfl⟩
  · cases eq_of_beq h; exact .inr ⟨_, rfl⟩
  · cases h

theorem plainFor_holds {q : Nat} {k : Pc} (h : k.plainFor q = true) : k.holds q = true := by
  rcases plainFor_cases h with ⟨j, rfl⟩ | ⟨j, rfl⟩ <;> exact beq_self_eq_true q

theorem plainFor_running {q : Nat} {k : Pc} (h : k.plainFor q = true) : k.runningQ = none := by
  rcases plainFor_cases h with ⟨j, rfl⟩ | ⟨j, rfl⟩ <;> rfl

theorem plainFor_callerOk {q : Nat} {k : Pc} (h : k.plainFor q = true) : k.callerOk = true := by
  rcases plainFor_cases h with ⟨j, rfl⟩ | ⟨j, rfl⟩ <;> rfl

theorem holds_of_runningQ : ∀ {pc : Pc} {j q : Nat}, pc.callerOk = true → pc.runningQ = some (j, q) → pc.holds q = true := by
  intro pc
  induction pc <;> intro j q hw hr
  case rjPending | rjParkCheck | rjPark | rjParked => cases hr; exact (plainFor_holds hw :)
  case jobStart c _ _ | jobAwait c _ _ | jobBodyDone c _ _ | jobEnd c _ _ | jobSignal c _ _ | jobSigDrop c _ _ | jobDrop c _ _ | suspSignal c _ _
      | suspSigDrop c _ _ =>
    cases hr
    cases c
    · exact (plainFor_holds hw :)
    · exact beq_self_eq_true _
    · exact beq_self_eq_true _
  case pdRequeue | dqRequeue | siIdle => cases hr; exact beq_self_eq_true _
  -- a program counter that only carries a continuation passes the claim on; every other one runs no job
  all_goals first | (rename_i ih; exact ih hw hr) | cases hr

@[simp] theorem callerOk_ctxReady (k : Pc) (c : Ctx) : (ctxReady k c).callerOk = (match c with | .caller _ => k.callerOk | _ => true) := by
  cases c <;> rfl
@[simp] theorem callerOk_ctxPending (j : Nat) (k : Pc) (c : Ctx) : (ctxPending j k c).callerOk = (match c with | .caller q => k.plainFor q | _ => true) := by
  cases c <;> rfl
@[simp] theorem runningQ_ctxPending (j : Nat) (k : Pc) (c : Ctx) : (ctxPending j k c).runningQ = some (j, c.q) := by
  cases c <;> rfl

/-- the hypothesis is what `callerOk` of a job-running program counter with context `c` and continuation `k` computes to -/
theorem callerOk_ctxReady_of {k : Pc} {c : Ctx} (h : (match c with | .caller q => k.plainFor q | _ => true) = true) :
    (ctxReady k c).callerOk = true := by
  cases c with
  | caller q => exact plainFor_callerOk h
  | _ => rfl

theorem ctxReady_running {k : Pc} {c : Ctx} (hw : (match c with | .caller q => k.plainFor q | _ => true) = true) : (ctxReady k c).runningQ = none := by
  cases c with
  | caller q => exact plainFor_running hw
  | _ => rfl

/-- phase and queue of job `j` -/
def State.jobPQ (s : State) (j : Nat) : Option (Phase × Nat) := (s.jobs[j]?).map (fun b => (b.ph, b.q))
/-- the job list of queue `q` -/
def State.qjobs (s : State) (q : Nat) : Option (List Nat) := (s.qs[q]?).map (·.jobs)

/-- is job `j` open: its closure has been invoked and it has neither completed nor been destroyed -/
def State.jobOpen (s : State) (j : Nat) : Bool :=
  match s.jobs[j]? with
  | some b => b.begun && !b.ended
  | none => false

/-- has job `j` begun / ended -/
def State.jobB (s : State) (j : Nat) : Bool := match s.jobs[j]? with | some b => b.begun | none => false
def State.jobE (s : State) (j : Nat) : Bool := match s.jobs[j]? with | some b => b.ended | none => false

theorem jobPQ_of {s : State} {j : Nat} {b : Job} (h : s.jobs[j]? = some b) : s.jobPQ j = some (b.ph, b.q) := by simp [State.jobPQ, h]
theorem qjobs_of {s : State} {q : Nat} {v : JobQ} (h : s.qs[q]? = some v) : s.qjobs q = some v.jobs := by simp [State.qjobs, h]
theorem jobOpen_of {s : State} {j : Nat} {b : Job} (h : s.jobs[j]? = some b) : s.jobOpen j = (b.begun && !b.ended) := by simp [State.jobOpen, h]
theorem jobB_of {s : State} {j : Nat} {b : Job} (h : s.jobs[j]? = some b) : s.jobB j = b.begun := by simp [State.jobB, h]
theorem jobE_of {s : State} {j : Nat} {b : Job} (h : s.jobs[j]? = some b) : s.jobE j = b.ended := by simp [State.jobE, h]

theorem jobOpen_eq (s : State) (j : Nat) : s.jobOpen j = (s.jobB j && !s.jobE j) := by
  simp only [State.jobOpen, State.jobB, State.jobE]; split <;> simp

theorem jobPQ_some {s : State} {j : Nat} {ph : Phase} {q : Nat} (h : s.jobPQ j = some (ph, q)) :
    ∃ b, s.jobs[j]? = some b ∧ b.ph = ph ∧ b.q = q := by
  simp only [State.jobPQ] at h
  cases hb : s.jobs[j]? with
  | none => simp [hb] at h
  | some b => simp [hb] at h; exact ⟨b, rfl, h.1, h.2⟩

theorem jobPQ_none_of_ge (s : State) (i : Nat) (h : s.jobs.length ≤ i) : s.jobPQ i = none := by
  have : s.jobs[i]? = none := by simpa using h
  simp [State.jobPQ, this]

theorem jobPQ_fresh (s : State) : s.jobPQ s.jobs.length = none := jobPQ_none_of_ge s _ (Nat.le_refl _)

theorem lt_of_jobPQ {s : State} {j : Nat} {pq : Phase × Nat} (h : s.jobPQ j = some pq) : j < s.jobs.length := by
  rcases Nat.lt_or_ge j s.jobs.length with hl | hn
  · exact hl
  · rw [jobPQ_none_of_ge s j hn] at h; cases h

theorem jobPQ_congr {s X : State} (h : X.jobs = s.jobs) (i : Nat) : X.jobPQ i = s.jobPQ i := by simp only [State.jobPQ, h]
theorem jobB_congr {s X : State} (h : X.jobs = s.jobs) (i : Nat) : X.jobB i = s.jobB i := by simp only [State.jobB, h]
theorem jobE_congr {s X : State} (h : X.jobs = s.jobs) (i : Nat) : X.jobE i = s.jobE i := by simp only [State.jobE, h]

theorem jobPQ_of_set {s X : State} {j : Nat} {jb v : Job} (hjb : s.jobs[j]? = some jb) (hX : X.jobs = s.jobs.set j v) (i : Nat) :
    X.jobPQ i = if i = j then some (v.ph, v.q) else s.jobPQ i := by
  by_cases e : i = j <;> simp [State.jobPQ, hX, getElem?_set_of hjb, e]

theorem jobB_of_set {s X : State} {j : Nat} {jb v : Job} (hjb : s.jobs[j]? = some jb) (hX : X.jobs = s.jobs.set j v) (i : Nat) :
    X.jobB i = if i = j then v.begun else s.jobB i := by
  by_cases e : i = j <;> simp [State.jobB, hX, getElem?_set_of hjb, e]

theorem jobE_of_set {s X : State} {j : Nat} {jb v : Job} (hjb : s.jobs[j]? = some jb) (hX : X.jobs = s.jobs.set j v) (i : Nat) :
    X.jobE i = if i = j then v.ended else s.jobE i := by
  by_cases e : i = j <;> simp [State.jobE, hX, getElem?_set_of hjb, e]

theorem jobB_of_set_keep {s X : State} {j : Nat} {jb v : Job} (hjb : s.jobs[j]? = some jb) (hX : X.jobs = s.jobs.set j v) (hk : v.begun = jb.begun)
    (i : Nat) : X.jobB i = s.jobB i :=
  upd_same (jobB_of_set hjb hX) (hk.trans (jobB_of hjb).symm) i

theorem jobE_of_set_keep {s X : State} {j : Nat} {jb v : Job} (hjb : s.jobs[j]? = some jb) (hX : X.jobs = s.jobs.set j v) (hk : v.ended = jb.ended)
    (i : Nat) : X.jobE i = s.jobE i :=
  upd_same (jobE_of_set hjb hX) (hk.trans (jobE_of hjb).symm) i

theorem jobPQ_of_append {s X : State} {nj : Job} (hX : X.jobs = s.jobs ++ [nj]) (i : Nat) :
    X.jobPQ i = if i = s.jobs.length then some (nj.ph, nj.q) else s.jobPQ i := by
  by_cases e : i = s.jobs.length <;> simp [State.jobPQ, hX, getElem?_append_one, e]

theorem jobB_of_append {s X : State} {nj : Job} (hX : X.jobs = s.jobs ++ [nj]) (i : Nat) :
    X.jobB i = if i = s.jobs.length then nj.begun else s.jobB i := by
  by_cases e : i = s.jobs.length <;> simp [State.jobB, hX, getElem?_append_one, e]

theorem jobE_of_append {s X : State} {nj : Job} (hX : X.jobs = s.jobs ++ [nj]) (i : Nat) :
    X.jobE i = if i = s.jobs.length then nj.ended else s.jobE i := by
  by_cases e : i = s.jobs.length <;> simp [State.jobE, hX, getElem?_append_one, e]

theorem qjobs_of_set {s X : State} {q : Nat} {v v' : JobQ} (hv : s.qs[q]? = some v) (hX : X.qs = s.qs.set q v') (i : Nat) :
    X.qjobs i = if i = q then some v'.jobs else s.qjobs i := by
  by_cases e : i = q <;> simp [State.qjobs, hX, getElem?_set_of hv, e]

theorem qjobs_congr {X s : State} (h : X.qs = s.qs) (q : Nat) : X.qjobs q = s.qjobs q := by simp only [State.qjobs, h]

theorem qjobs_of_lists {s X : State} (h : X.qs.map JobQ.jobs = s.qs.map JobQ.jobs) (i : Nat) : X.qjobs i = s.qjobs i := by
  have e : ∀ t : State, t.qjobs i = (t.qs.map JobQ.jobs)[i]? := fun t => (List.getElem?_map ..).symm
  rw [e, e, h]

theorem jobs_setJobPh_of {s : State} {j : Nat} {jb : Job} (hjb : s.jobs[j]? = some jb) (ph : Phase) :
    (s.setJobPh j ph).jobs = s.jobs.set j { jb with ph := ph } := by
  simp [State.setJobPh, hjb]

@[simp] theorem lists_setQState (s : State) (q : Nat) (st : QState) : (s.setQState q st).qs.map JobQ.jobs = s.qs.map JobQ.jobs := by
  unfold State.setQState
  split
  · next v hv => simp [map_set_keep hv]
  · rfl

@[simp] theorem qjobs_setFut (s : State) (f : Nat) (v : Fut) (i : Nat) : (s.setFut f v).qjobs i = s.qjobs i := rfl
@[simp] theorem jobPQ_setFut (s : State) (f : Nat) (v : Fut) (i : Nat) : (s.setFut f v).jobPQ i = s.jobPQ i := rfl
@[simp] theorem qjobs_setGate (s : State) (g : Nat) (v : Gate) (i : Nat) : (s.setGate g v).qjobs i = s.qjobs i := rfl
@[simp] theorem jobPQ_setGate (s : State) (g : Nat) (v : Gate) (i : Nat) : (s.setGate g v).jobPQ i = s.jobPQ i := rfl
@[simp] theorem qjobs_setAct (s : State) (a : Nat) (v : Act) (i : Nat) : (s.setAct a v).qjobs i = s.qjobs i := rfl
@[simp] theorem qjobs_setSf (s : State) (u : Nat) (v : SyncFut) (i : Nat) : (s.setSf u v).qjobs i = s.qjobs i := rfl
@[simp] theorem jobPQ_setSf (s : State) (u : Nat) (v : SyncFut) (i : Nat) : (s.setSf u v).jobPQ i = s.jobPQ i := rfl
@[simp] theorem qjobs_setPThr (s : State) (p : Nat) (v : PThr) (i : Nat) : (s.setPThr p v).qjobs i = s.qjobs i := rfl
@[simp] theorem jobPQ_setPThr (s : State) (p : Nat) (v : PThr) (i : Nat) : (s.setPThr p v).jobPQ i = s.jobPQ i := rfl
@[simp] theorem qjobs_setHolder (s : State) (q : Nat) (h : Option Nat) (i : Nat) : (s.setHolder q h).qjobs i = s.qjobs i := rfl
@[simp] theorem qjobs_takeReady (s : State) (w a : Nat) (i : Nat) : (s.takeReady w a).qjobs i = s.qjobs i := rfl
@[simp] theorem jobPQ_takeReady (s : State) (w a : Nat) (i : Nat) : (s.takeReady w a).jobPQ i = s.jobPQ i := rfl
@[simp] theorem qjobs_dropReady (s : State) (w : Nat) (i : Nat) : (s.dropReady w).qjobs i = s.qjobs i := rfl
@[simp] theorem jobPQ_dropReady (s : State) (w : Nat) (i : Nat) : (s.dropReady w).jobPQ i = s.jobPQ i := rfl
@[simp] theorem qjobs_setJob (s : State) (j : Nat) (v : Job) (i : Nat) : (s.setJob j v).qjobs i = s.qjobs i := rfl

@[simp] theorem jobPQ_goto (s : State) (a : Nat) (pc : Pc) (i : Nat) : (s.goto a pc).jobPQ i = s.jobPQ i := jobPQ_congr (jobs_goto ..) i
@[simp] theorem qjobs_goto (s : State) (a : Nat) (pc : Pc) (i : Nat) : (s.goto a pc).qjobs i = s.qjobs i := by unfold State.goto; split <;> rfl
@[simp] theorem qjobs_setWoken (s : State) (a : Nat) (b : Bool) (i : Nat) : (s.setWoken a b).qjobs i = s.qjobs i := by unfold State.setWoken; split <;> rfl
@[simp] theorem qjobs_notify (s : State) (w : Nat) (i : Nat) : (s.notify w).qjobs i = s.qjobs i := by unfold State.notify; split <;> (try split) <;> rfl
@[simp] theorem qjobs_setJobPh (s : State) (j : Nat) (ph : Phase) (i : Nat) : (s.setJobPh j ph).qjobs i = s.qjobs i := by unfold State.setJobPh; split <;> rfl

theorem qjobs_setQ_of {s : State} {q : Nat} {v : JobQ} (hq : s.qs[q]? = some v) (v' : JobQ) (i : Nat) :
    (s.setQ q v').qjobs i = if i = q then some v'.jobs else s.qjobs i :=
  qjobs_of_set hq rfl i

theorem qjobs_setQ_keep {s : State} {q : Nat} {v v' : JobQ} (hq : s.qs[q]? = some v) (h1 : v'.jobs = v.jobs) (i : Nat) :
    (s.setQ q v').qjobs i = s.qjobs i :=
  upd_same (qjobs_setQ_of hq v') (by rw [h1, qjobs_of hq]) i

@[simp] theorem qjobs_setQState (s : State) (q : Nat) (st : QState) (i : Nat) : (s.setQState q st).qjobs i = s.qjobs i :=
  qjobs_of_lists (lists_setQState s q st) i

theorem qjobs_pushFront (s : State) (q j i : Nat) :
    (s.pushFront q j).qjobs i = if i = q then (s.qjobs q).map (j :: ·) else s.qjobs i := by
  unfold State.pushFront
  cases hq : s.qs[q]? with
  | none => by_cases h : i = q <;> simp [State.qjobs, hq, h]
  | some v => rw [qjobs_setQ_of hq]; by_cases h : i = q <;> simp [qjobs_of hq, h]

@[simp] theorem qjobs_newJob (s : State) (q : Nat) (kind : JobKind) (i : Nat) : (s.newJob q kind).1.qjobs i = s.qjobs i := rfl

theorem dequeue_some {s : State} {q a j : Nat} (h : (s.dequeue q a).2 = some j) :
    ∃ v rest, s.qs[q]? = some v ∧ v.jobs = j :: rest ∧ (s.dequeue q a).1 = (s.setQ q { v with jobs := rest }).setJobPh j (.held a) := by
  unfold State.dequeue at h ⊢
  split at h
  · next v hv =>
    split at h
    · split at h
      · next j' rest hj =>
        simp at h; subst h
        refine ⟨v, rest, hv, hj, ?_⟩
        simp [*]
      · simp at h
    · simp at h
  · simp at h

theorem dequeue_none {s : State} {q a : Nat} (h : (s.dequeue q a).2 = none) : (s.dequeue q a).1 = s := by
  unfold State.dequeue at h ⊢
  split
  · split
    · split
      · next j rest hj => simp [*] at h
      · rfl
    · rfl
  · rfl

@[simp] theorem jobOpen_setQ (s : State) (q : Nat) (v : JobQ) (i : Nat) : (s.setQ q v).jobOpen i = s.jobOpen i := rfl
@[simp] theorem jobOpen_setFut (s : State) (f : Nat) (v : Fut) (i : Nat) : (s.setFut f v).jobOpen i = s.jobOpen i := rfl
@[simp] theorem jobOpen_setGate (s : State) (g : Nat) (v : Gate) (i : Nat) : (s.setGate g v).jobOpen i = s.jobOpen i := rfl
@[simp] theorem jobOpen_setSf (s : State) (u : Nat) (v : SyncFut) (i : Nat) : (s.setSf u v).jobOpen i = s.jobOpen i := rfl
@[simp] theorem jobOpen_setPThr (s : State) (p : Nat) (v : PThr) (i : Nat) : (s.setPThr p v).jobOpen i = s.jobOpen i := rfl
@[simp] theorem jobOpen_setHolder (s : State) (q : Nat) (h : Option Nat) (i : Nat) : (s.setHolder q h).jobOpen i = s.jobOpen i := rfl
@[simp] theorem jobOpen_takeReady (s : State) (w a : Nat) (i : Nat) : (s.takeReady w a).jobOpen i = s.jobOpen i := rfl
@[simp] theorem jobOpen_dropReady (s : State) (w : Nat) (i : Nat) : (s.dropReady w).jobOpen i = s.jobOpen i := rfl
@[simp] theorem jobOpen_goto (s : State) (a : Nat) (pc : Pc) (i : Nat) : (s.goto a pc).jobOpen i = s.jobOpen i := by unfold State.goto; split <;> rfl
@[simp] theorem jobOpen_setWoken (s : State) (a : Nat) (b : Bool) (i : Nat) : (s.setWoken a b).jobOpen i = s.jobOpen i := by unfold State.setWoken; split <;> rfl
@[simp] theorem jobOpen_notify (s : State) (w : Nat) (i : Nat) : (s.notify w).jobOpen i = s.jobOpen i := by unfold State.notify; split <;> (try split) <;> rfl
@[simp] theorem jobOpen_setQState (s : State) (q : Nat) (st : QState) (i : Nat) : (s.setQState q st).jobOpen i = s.jobOpen i := by unfold State.setQState; split <;> rfl
@[simp] theorem jobOpen_pushBack (s : State) (q j : Nat) (i : Nat) : (s.pushBack q j).jobOpen i = s.jobOpen i := by unfold State.pushBack; split <;> rfl
@[simp] theorem jobOpen_pushFront (s : State) (q j : Nat) (i : Nat) : (s.pushFront q j).jobOpen i = s.jobOpen i := by unfold State.pushFront; split <;> rfl

theorem jobOpen_setJob_of {s : State} {j : Nat} {b : Job} (hj : s.jobs[j]? = some b) (v : Job) (i : Nat) :
    (s.setJob j v).jobOpen i = if i = j then (v.begun && !v.ended) else s.jobOpen i := by
  by_cases e : i = j <;> simp [State.jobOpen, getElem?_set_of hj, e]

theorem jobOpen_setJob_keep {s : State} {j : Nat} {b v : Job} (hj : s.jobs[j]? = some b) (h1 : v.begun = b.begun) (h2 : v.ended = b.ended) (i : Nat) :
    (s.setJob j v).jobOpen i = s.jobOpen i :=
  upd_same (jobOpen_setJob_of hj v) (by rw [h1, h2, jobOpen_of hj]) i

@[simp] theorem jobOpen_setJobPh (s : State) (j : Nat) (ph : Phase) (i : Nat) : (s.setJobPh j ph).jobOpen i = s.jobOpen i := by
  unfold State.setJobPh
  split
  · next v hv => exact jobOpen_setJob_keep (v := { v with ph := ph }) hv rfl rfl i
  · rfl

@[simp] theorem jobOpen_newJob (s : State) (q : Nat) (kind : JobKind) (i : Nat) : (s.newJob q kind).1.jobOpen i = s.jobOpen i := by
  by_cases e : i = s.jobs.length <;> simp [State.jobOpen, getElem?_append_one, e]

@[simp] theorem jobB_setQ (s : State) (q : Nat) (v : JobQ) (i : Nat) : (s.setQ q v).jobB i = s.jobB i := rfl
@[simp] theorem jobB_setFut (s : State) (f : Nat) (v : Fut) (i : Nat) : (s.setFut f v).jobB i = s.jobB i := rfl
@[simp] theorem jobB_setGate (s : State) (g : Nat) (v : Gate) (i : Nat) : (s.setGate g v).jobB i = s.jobB i := rfl
@[simp] theorem jobB_setSf (s : State) (u : Nat) (v : SyncFut) (i : Nat) : (s.setSf u v).jobB i = s.jobB i := rfl
@[simp] theorem jobB_setPThr (s : State) (p : Nat) (v : PThr) (i : Nat) : (s.setPThr p v).jobB i = s.jobB i := rfl
@[simp] theorem jobB_takeReady (s : State) (w a : Nat) (i : Nat) : (s.takeReady w a).jobB i = s.jobB i := rfl
@[simp] theorem jobB_dropReady (s : State) (w : Nat) (i : Nat) : (s.dropReady w).jobB i = s.jobB i := rfl
@[simp] theorem jobB_goto (s : State) (a : Nat) (pc : Pc) (i : Nat) : (s.goto a pc).jobB i = s.jobB i := jobB_congr (jobs_goto ..) i

@[simp] theorem jobE_setQ (s : State) (q : Nat) (v : JobQ) (i : Nat) : (s.setQ q v).jobE i = s.jobE i := rfl
@[simp] theorem jobE_setFut (s : State) (f : Nat) (v : Fut) (i : Nat) : (s.setFut f v).jobE i = s.jobE i := rfl
@[simp] theorem jobE_setGate (s : State) (g : Nat) (v : Gate) (i : Nat) : (s.setGate g v).jobE i = s.jobE i := rfl
@[simp] theorem jobE_setSf (s : State) (u : Nat) (v : SyncFut) (i : Nat) : (s.setSf u v).jobE i = s.jobE i := rfl
@[simp] theorem jobE_setPThr (s : State) (p : Nat) (v : PThr) (i : Nat) : (s.setPThr p v).jobE i = s.jobE i := rfl
@[simp] theorem jobE_takeReady (s : State) (w a : Nat) (i : Nat) : (s.takeReady w a).jobE i = s.jobE i := rfl
@[simp] theorem jobE_dropReady (s : State) (w : Nat) (i : Nat) : (s.dropReady w).jobE i = s.jobE i := rfl
@[simp] theorem jobE_goto (s : State) (a : Nat) (pc : Pc) (i : Nat) : (s.goto a pc).jobE i = s.jobE i := jobE_congr (jobs_goto ..) i

end Desync
