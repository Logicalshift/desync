/-
The closure of an operation is invoked at most once (C03: no operation is duplicated; C04: sync runs its closure once; C05: the
value is freed once).  `Job.ran`: the job carries a closure (desync / sync / after, including the drop closure) and that closure
has been invoked.  `RunInv` is `JobFlagInv Job.ran 1`: such a job is in no queue's list, and whoever has it in hand is inside or past
the closure.  So an activity standing at the step that invokes the closure (`jobStart` of a closure job, `jobAwait` of an `after`
job) finds `begun = false`.
-/
import DesyncModel.Inv.Flag
namespace Desync
open Gen

/-- kinds whose operation is a closure run as a harness body (the others are futures polled repeatedly) -/
def JobKind.hasBody : JobKind → Bool
  | .plain _ | .immediate _ _ | .erasedDrain _ _ | .erasedBg _ _ | .after _ _ _ => true
  | _ => false

def Job.ran (b : Job) : Bool := b.begun && b.kind.hasBody

def State.jobRan (s : State) (j : Nat) : Bool := match s.jobs[j]? with | some b => b.ran | none => false

theorem jobRan_of {s : State} {j : Nat} {b : Job} (h : s.jobs[j]? = some b) : s.jobRan j = b.ran := jobFlag_of h

@[simp] theorem jobRan_setQ (s : State) (q : Nat) (v : JobQ) (i : Nat) : (s.setQ q v).jobRan i = s.jobRan i := rfl
@[simp] theorem jobRan_setFut (s : State) (f : Nat) (v : Fut) (i : Nat) : (s.setFut f v).jobRan i = s.jobRan i := rfl
@[simp] theorem jobRan_setGate (s : State) (g : Nat) (v : Gate) (i : Nat) : (s.setGate g v).jobRan i = s.jobRan i := rfl
@[simp] theorem jobRan_setSf (s : State) (u : Nat) (v : SyncFut) (i : Nat) : (s.setSf u v).jobRan i = s.jobRan i := rfl
@[simp] theorem jobRan_setPThr (s : State) (p : Nat) (v : PThr) (i : Nat) : (s.setPThr p v).jobRan i = s.jobRan i := rfl
@[simp] theorem jobRan_takeReady (s : State) (w a : Nat) (i : Nat) : (s.takeReady w a).jobRan i = s.jobRan i := rfl
@[simp] theorem jobRan_dropReady (s : State) (w : Nat) (i : Nat) : (s.dropReady w).jobRan i = s.jobRan i := rfl

/-- the innermost job program counter is inside or past the closure of the job -/
def Pc.inBody : Pc → Bool
  | .begin _ k | .body _ k => k.inBody
  | .stReap k | .stScanLock k | .stScan _ k | .stScanHeld _ k | .stScanRel _ _ k
  | .stScanUnlock _ k | .stReadMax k | .stSpawn _ k | .stSpawnRel k => k.inBody
  | .rqCs _ k | .rqNotifyAcq _ _ _ k | .rqNotify _ _ _ k | .rqNotifyRel _ _ _ k | .rqPush _ k => k.inBody
  | .resumeSend _ k | .waking _ k | .openSend _ k | .wqCs _ k | .wtCs _ _ k | .wtUnpark _ k | .lwCs _ k | .dwCs _ k => k.inBody
  | .jobBodyDone _ _ _ | .jobSignal _ _ _ | .jobSigDrop _ _ _ | .jobDrop _ _ _ | .siIdle _ _ => true
  | .pfPollRel _ next => next.inBody
  | .dqWakeWith _ _ _ k => k.inBody
  | .fdDrop _ k => k.inBody
  | _ => false

@[simp] theorem inBody_ctxPending (j : Nat) (k : Pc) (c : Ctx) : (ctxPending j k c).inBody = false := by cases c <;> rfl

structure RunInv (s : State) : Prop where
  /-- whoever has in hand a job whose closure has been invoked is inside or past the closure -/
  holders : ∀ a j q, (s.pcAt a).runningQ = some (j, q) → s.jobRan j = true → (s.pcAt a).inBody = true
  /-- such a job is never (back) in a queue -/
  queued : ∀ q l j, s.qjobs q = some l → j ∈ l → s.jobRan j = false

theorem inBody_eq (pc : Pc) : pc.inBody = decide (1 ≤ pc.stage) := by
  -- a program counter that both look through: the induction hypothesis; any other: by computation
  induction pc <;> first | assumption | rfl

theorem RunInv.flag {s : State} : RunInv s ↔ JobFlagInv Job.ran 1 s :=
  ⟨fun h => ⟨fun a j q hr hs => of_decide_eq_true ((inBody_eq _).symm.trans (h.holders a j q hr hs)), h.queued⟩,
   fun h => ⟨fun a j q hr hs => (inBody_eq _).trans (decide_eq_true (h.holders a j q hr hs)), h.queued⟩⟩

theorem Step.ran_raise {s s' : State} {a : Nat} {act : Act} (ha : s.acts[a]? = some act) (hst : Step s a act s') (j : Nat)
    (hj : s'.jobFlag Job.ran j = true) : s.jobFlag Job.ran j = true ∨
      ∃ q, (s'.pcAt a).runningQ = some (j, q) ∧ 1 ≤ (s'.pcAt a).stage ∧ (act.pc.runningQ = some (j, q) ∨ s.jobs.length ≤ j) := by
  have hlt : a < s.acts.length := lt_of_getElem?_some ha
  cases hst
  -- the closure is invoked
  case jobStartPlain j0 c k jb _ hpc hjb _ | jobStartDrain j0 c k jb _ _ hpc hjb _ | jobStartBg j0 c k jb _ _ hpc hjb _
      | jobAwaitAfter j0 c k jb _ _ _ hpc hjb _ _ =>
    rw [jobFlag_set hjb (by simp [State.setJob]; rfl)] at hj
    split at hj
    · next e =>
      exact .inr ⟨c.q, by rw [pcAt_goto_self _ (by exact hlt), e]; rfl, by rw [pcAt_goto_self _ (by exact hlt)]; exact Nat.le_refl 1, .inl (by rw [hpc, e]; rfl)⟩
    · exact .inl hj
  -- `sync` creates the job for its closure in its own hand
  case syImmediate q _ _ _ _ _ | tsImmediate q _ _ _ _ _ =>
    rw [jobFlag_append (s := s) (by simp; rfl)] at hj
    split at hj
    · next e =>
      exact .inr ⟨q, by rw [pcAt_goto_self _ (by exact hlt), e]; rfl, by rw [pcAt_goto_self _ (by exact hlt)]; exact Nat.le_refl 1, .inr (Nat.le_of_eq e.symm)⟩
    · exact .inl hj
  -- a future job is polled for the first time: it has no closure
  case jobStartFut hk _ | jobStartSlotWake hk _ _ _ | jobStartSlot hk _ _ _ | jobStartSusp hk _ =>
    exact .inl ((jobFlag_set_keep (by assumption) (by simp [State.setJob]; rfl) (by simp [Job.ran, JobKind.hasBody, hk]) j).symm.trans hj)
  -- another field of a job is rewritten
  case jobBodyDoneDrain | jobBodyDoneAfter | jobBodyDone | jobEnd | jobSignalWake | jobSignal | jobDropBg | jobDrop | siIdle | rjPendingPanic
      | rjParkCheckPanic | jobAwaitPending | openSendJobWake | openSendJob | resumeSendWake | resumeSend =>
    exact .inl ((jobFlag_set_keep (by assumption) (by simp [State.setJob]; rfl) (by rfl) j).symm.trans hj)
  -- a new job has not begun
  case dsPushSchedule | dsPushNone | dsPushPanic | sdPush | sbPushIdle | sbPush =>
    exact .inl ((jobFlag_append_keep (by simp [State.newJob]; rfl) (by rfl) j).symm.trans hj)
  case rjDequeue | rjDequeueNone | pdDequeue | pdDequeueNone | dqDequeue | dqDequeueNone =>
    exact .inl ((jobFlag_dequeue (fun _ _ => rfl) s _ a j).symm.trans (jobFlag_of_goto hj rfl))
  case pdRequeue | dqRequeue =>
    exact .inl (((jobFlag_setJobPh (fun _ _ => rfl) _ _ _ j).trans (jobFlag_same (jobs_pushFront _ _ _) j)).symm.trans (jobFlag_of_goto hj rfl))
  case rqNotify | jobDropNotify | sbWait | sbWaiting | sfRecvReady | sdIdle | sbStealIdle | dqSetWfw | dqSetWfp | dqIdle2 | dqIdle | sbPrune =>
    exact .inl ((jobFlag_same (by simp) j).symm.trans hj)
  case tsBusy | pfPollReady | pollReadySfSched | pollPendingOnce | sfPollQueue | sfPollSched | sfPollCompleted | sfBlockedOnce | dqCheckReady
      | dqCheck2Ready | fsTakeReady =>
    exact .inl hj
  all_goals exact .inl (jobFlag_of_goto hj rfl)

theorem runInv_reachable {s : State} (hr : Reachable s) : RunInv s := RunInv.flag.mpr (jobFlagInv_reachable ⟨Nat.zero_lt_one, Step.ran_raise⟩ hr)

/-- **The closure of an operation is invoked at most once**: an activity that stands at the step which invokes the closure of
job `j` (`jobStart`; for an `after` operation the closure is invoked from `jobAwait`, once the awaited future is ready) finds
`begun = false`, in every reachable state — whoever runs the job, and whatever happened to its queue in between. -/
theorem closure_invoked_at_most_once {s : State} (hr : Reachable s) {a j : Nat} {c : Ctx} {k : Pc} {jb : Job}
    (hpc : s.pcAt a = .jobStart j c k ∨ s.pcAt a = .jobAwait j c k) (hj : s.jobs[j]? = some jb) (hk : jb.kind.hasBody = true) :
    jb.begun = false := by
  have h := runInv_reachable hr
  cases hx : jb.begun with
  | false => rfl
  | true =>
    have hran : s.jobRan j = true := by rw [jobRan_of hj, Job.ran, hx, hk]; rfl
    rcases hpc with hpc | hpc
    all_goals
      have := h.holders a j c.q (by rw [hpc]; rfl) hran
      rw [hpc] at this
      cases this

/-- a closure job whose closure has been invoked is in no queue: it can never be started again -/
theorem ran_job_not_queued {s : State} (hr : Reachable s) {q j : Nat} {v : JobQ} {jb : Job}
    (hv : s.qs[q]? = some v) (hm : j ∈ v.jobs) (hj : s.jobs[j]? = some jb) (hk : jb.kind.hasBody = true) : jb.begun = false := by
  have := (runInv_reachable hr).queued q v.jobs j (qjobs_of hv) hm
  rwa [jobRan_of hj, Job.ran, hk, Bool.and_true] at this

/-! `RunInv` across the post-state of the two rules that create an immediate job, written out; the step theorem handles them through `JobFlagInv` like every other rule. -/

theorem RunInv.immediate {s : State} {a q : Nat} {b : Body} {st : QState} {v : JobQ} (hf : FullInv s) (h : RunInv s) (hv : s.qs[q]? = some v) :
    RunInv (((({ (s.setQ q { v with state := st }) with jobs := (s.setQ q { v with state := st }).jobs ++ [⟨q, .immediate a b, .held a, true, false, none, false⟩] } : State).setHolder q (some a)).goto a
      (.begin b (.siIdle q (s.setQ q { v with state := st }).jobs.length)))) := by
  refine RunInv.flag.mpr ((RunInv.flag.mp h).of_flow Nat.zero_lt_one (.create (fun i => qjobs_of_set_keep hv (by rfl) (by rfl) i) rfl)
    (fun c hc => .inr (pcAt_goto_ne _ hc)) (fun j hj => ?_))
  have hj' := jobFlag_of_goto hj rfl
  rw [jobFlag_append (s := s) rfl] at hj'
  split at hj'
  · next e =>
    -- the new job: its index was in no hand and in no list
    subst e
    refine .inr ⟨fun c q' hr => ?_, fun q' l' hl hm => ?_⟩
    · rw [pcAt_goto] at hr ⊢
      split
      · exact Nat.le_refl 1
      · next hc => rw [if_neg hc] at hr; have := hf.run1 c _ q' hr; rw [jobPQ_fresh] at this; cases this
    · rw [qjobs_goto, qjobs_of_set_keep hv (by rfl) (by rfl)] at hl
      have := hf.queued q' l' _ hl hm; rw [jobPQ_fresh] at this; cases this
  · exact .inl hj'

end Desync
