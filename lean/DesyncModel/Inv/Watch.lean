/-
Pool invariants, proved about the abstract pool step `PStep`: who holds the threads-vector lock (`TlInv`) and the busy flags
(`BlInv`), which activity is which pool thread (`PoInv`), what the thread records say of the threads of the vector and of the
busy ones (`ThrInv`), and what is known of the maxima configured and in flight (`MaxInv`).  I_watch (`Inv/WatchSched.lean`) and
I_pool (`Inv/Pool.lean`) rest on them.
-/
import DesyncModel.Inv.PoolAbs

namespace Desync
open Gen

/-- the activity holds the lock of the threads vector -/
def PCls.tlHeld : PCls → Bool
  | .st (.scan _) | .st (.scanHeld _) | .st (.scanRel _ _) | .st (.scanUnlock _) | .st .spawnRel | .dpHang _ _ => true
  | _ => false

/-- the scan holds the busy flag of the thread at this index of the vector -/
def PCls.scanIdx : PCls → Option Nat
  | .st (.scanHeld i) | .st (.scanRel i _) => some i
  | _ => none

/-- the pool thread holds its own busy flag -/
def PCls.ownBL : PCls → Option Nat
  | .pt p .lockSched | .pt p .pop | .pt p (.unlockSched _) | .pt p (.unlockBusy _) => some p
  | _ => none

/-- the pool thread waits for a message -/
def PCls.rest : PCls → Bool
  | .pt _ .recv | .pt _ .recvd => true
  | _ => false

/-- the pool thread found the schedule empty and is about to clear its busy flag -/
def PCls.gave : PCls → Bool
  | .pt _ (.unlockBusy none) | .pt _ (.unlockSched none) => true
  | _ => false

/-- the maximum that a `set_max_threads` call is about to store, or that a `schedule_thread` call has read and is about to compare
the vector with, satisfies `P` -/
def PCls.maxOk (P : Nat → Prop) : PCls → Prop
  | .smSet n | .st (.spawn n) => P n
  | _ => True

theorem PCls.plain_cases (c : PCls) (h : c.plain = true) : c = .neutral ∨ ∃ p, c = .pt p .work := by
  cases c with
  | neutral => exact .inl rfl
  | pt p ph => cases ph <;> first | exact .inr ⟨p, rfl⟩ | cases h
  | _ => cases h

/-- A plain class (what an activity has on its return to a continuation) has none of these attributes.  The proofs below
evaluate the attributes of the mover's class before and after a step with `simp [*, ↓PCls.of_plain, PCls.…]`: the hypotheses
of the `PStep` rule give the two classes, the definition computes the attribute, and this lemma (tried first: `↓`) answers
where the rule only says that the class is plain. -/
theorem PCls.of_plain {c : PCls} (h : c.plain = true) :
    c.tlHeld = false ∧ c.scanIdx = none ∧ c.ownBL = none ∧ c.rest = false ∧ c.gave = false ∧ ∀ P, c.maxOk P := by
  rcases c.plain_cases h with rfl | ⟨p, rfl⟩ <;> exact ⟨rfl, rfl, rfl, rfl, rfl, fun _ => trivial⟩

theorem PStep.pcAt_oth {s X : State} {a b : Nat} (hp : PStep s a X) (hb : b ≠ a) :
    X.pcAt b = s.pcAt b ∨ (b = s.acts.length ∧ X.pcAt b = .ptRecv s.pthreads.length) := by
  cases hp
  case spawnYes hoth hnew _ _ _ _ =>
    by_cases hbl : b = s.acts.length
    · exact .inr ⟨hbl, hbl ▸ hnew⟩
    · exact .inl (hoth b hb hbl)
  case ptExit hoth _ _ _ _ _ _ _ _ => exact .inl (hoth b hb)
  all_goals exact .inl ((‹Base s a X›).oth b hb)

theorem PStep.cl_oth {s X : State} {a b : Nat} (hp : PStep s a X) (hb : b ≠ a) : X.cl b = s.cl b ∨ X.cl b = .pt s.pthreads.length .recv := by
  rcases hp.pcAt_oth hb with h | ⟨-, h⟩
  · exact .inl (congrArg Pc.cls h)
  · exact .inr (congrArg Pc.cls h)

theorem Base.cl {s X : State} {a : Nat} (hb : Base s a X) : ∀ b, b ≠ a → X.cl b = s.cl b := fun b h => congrArg Pc.cls (hb.oth b h)
theorem Base.po' {s X : State} {a : Nat} (hb : Base s a X) : ∀ b, b ≠ a → X.po b = s.po b := fun b h => congrArg Pc.poolOf (hb.oth b h)

/-- an activity at a point of `schedule_thread` (the scan, the spawn) or of the despawn loop that runs under the lock of the threads vector
is recorded as the holder of that lock -/
def TlInv (s : State) : Prop := ∀ b, (s.cl b).tlHeld = true → s.threadsLock = some b

theorem tl_step {s X : State} {a : Nat}
    (hoth : ∀ b, b ≠ a → X.cl b = s.cl b ∨ (X.cl b).tlHeld = false)
    (hcase : (X.threadsLock = s.threadsLock ∧ ((X.cl a).tlHeld = true → (s.cl a).tlHeld = true)) ∨ (s.threadsLock = none ∧ X.threadsLock = some a)
             ∨ ((s.cl a).tlHeld = true ∧ (X.cl a).tlHeld = false))
    (h : TlInv s) : TlInv X := by
  intro b hb
  by_cases hba : b = a
  · subst hba
    rcases hcase with ⟨h1, h2⟩ | ⟨_, h2⟩ | ⟨_, h2⟩
    · rw [h1]; exact h b (h2 hb)
    · exact h2
    · rw [h2] at hb; cases hb
  · have hcl : X.cl b = s.cl b := by
      rcases hoth b hba with h1 | h1
      · exact h1
      · rw [h1] at hb; cases hb
    rw [hcl] at hb
    have hsb := h b hb
    rcases hcase with ⟨h1, _⟩ | ⟨h1, _⟩ | ⟨h1, _⟩
    · rw [h1]; exact hsb
    · rw [h1] at hsb; cases hsb
    · have := h a h1
      rw [hsb] at this
      exact absurd (Option.some.inj this) hba

theorem tl_pstep {s X : State} {a : Nat} (h : TlInv s) (hp : PStep s a X) : TlInv X := by
  refine tl_step (a := a) (fun b hb => (hp.cl_oth hb).imp_right fun (e : X.cl b = _) => e ▸ rfl) ?_ h
  cases hp
  -- the lock is taken
  case scanLock | spawnYes | dpLock => exact .inr (.inl ⟨‹s.threadsLock = none›, (‹PoolIs X _ _ _ _ _›).lock⟩)
  -- the lock is released
  case scanEnd | scanUnlock | spawnRel | dpHangEnd => exact .inr (.inr (by simp [*, ↓PCls.of_plain, PCls.tlHeld]))
  -- the lock is left alone, and the mover holds it afterwards only if it did before
  all_goals exact .inl ⟨(‹PoolIs X _ _ _ _ _›).lock, by simp [*, ↓PCls.of_plain, PCls.tlHeld]⟩

structure PoInv (s : State) : Prop where
  /-- a pool thread is one activity: no two activities are the same pool thread -/
  uniq : ∀ a b p, s.po a = some p → s.po b = some p → a = b
  /-- the pool thread an activity is has a thread record -/
  bound : ∀ a p, s.po a = some p → p < s.pthreads.length

theorem po_step {s X : State} {a : Nat} (hoth : ∀ b, b ≠ a → X.po b = s.po b) (ha : X.po a = s.po a ∨ X.po a = none)
    (hlen : s.pthreads.length ≤ X.pthreads.length) (h : PoInv s) : PoInv X := by
  have key : ∀ b p, X.po b = some p → s.po b = some p := by
    intro b p hb
    by_cases hba : b = a
    · subst hba
      rcases ha with h1 | h1
      · rw [← h1]; exact hb
      · rw [h1] at hb; cases hb
    · rw [← hoth b hba]; exact hb
  exact ⟨fun b c p hb hc => h.uniq b c p (key b p hb) (key c p hc), fun b p hb => Nat.lt_of_lt_of_le (h.bound b p (key b p hb)) hlen⟩

theorem po_spawn {s X : State} {a : Nat} (hoth : ∀ b, b ≠ a → b ≠ s.acts.length → X.po b = s.po b) (ha : X.po a = s.po a)
    (hn : X.po s.acts.length = some s.pthreads.length) (hlen : X.pthreads.length = s.pthreads.length + 1) (h : PoInv s) : PoInv X := by
  have key : ∀ b p, X.po b = some p → (b ≠ s.acts.length ∧ s.po b = some p) ∨ (b = s.acts.length ∧ p = s.pthreads.length) := by
    intro b p hb
    by_cases hbn : b = s.acts.length
    · subst hbn
      rw [hn] at hb
      exact Or.inr ⟨rfl, (Option.some.inj hb).symm⟩
    · left
      refine ⟨hbn, ?_⟩
      by_cases hba : b = a
      · subst hba; rw [← ha]; exact hb
      · rw [← hoth b hba hbn]; exact hb
  constructor
  · intro b c p hb hc
    rcases key b p hb with ⟨_, h1⟩ | ⟨h1, h2⟩ <;> rcases key c p hc with ⟨_, h3⟩ | ⟨h3, h4⟩
    · exact h.uniq b c p h1 h3
    · have := h.bound b p h1; omega
    · have := h.bound c p h3; omega
    · rw [h1, h3]
  · intro b p hb
    rcases key b p hb with ⟨_, h1⟩ | ⟨_, h2⟩
    · have := h.bound b p h1; omega
    · omega

theorem po_pstep {s X : State} {a : Nat} (h : PoInv s) (hp : PStep s a X) : PoInv X := by
  cases hp
  case spawnYes m hc hl hlt hoth hnew hpo ha hX hc' =>
    exact po_spawn (fun b hba hbl => congrArg Pc.poolOf (hoth b hba hbl)) hpo (congrArg Pc.poolOf hnew) (by rw [hX.pth]; simp) h
  case ptExit p pt hoth hc hpo hp hm hh hX hc' hpo' =>
    exact po_step (fun b hb => congrArg Pc.poolOf (hoth b hb)) (.inr hpo') (by rw [hX.pth]; simp) h
  all_goals exact po_step (‹Base s a X›).po' (.inl (‹Base s a X›).po) (by rw [(‹PoolIs X _ _ _ _ _›).pth]; simp) h

/-- the holder of the busy flag of thread `p` -/
def State.bl (s : State) (p : Nat) : Option Nat := (s.pthreads[p]?).bind (·.busyLock)

/-- activity `b` is at a point of the code where it holds the busy flag of thread `p` -/
def holdsBusy (s : State) (b p : Nat) : Prop :=
  (∃ i, (s.cl b).scanIdx = some i ∧ s.threadsVec[i]? = some p) ∨ (s.cl b).ownBL = some p

structure BlInv (s : State) : Prop where
  /-- the scan of `schedule_thread`, while it holds the busy flag of the thread it looks at, stands at an index inside the vector -/
  idx : ∀ b i, (s.cl b).scanIdx = some i → ∃ p, s.threadsVec[i]? = some p
  /-- an activity at a point of the code where it holds a thread's busy flag (the scan for the thread it looks at, a pool thread for its own)
  is recorded as the holder of that flag -/
  own : ∀ b p, holdsBusy s b p → s.bl p = some b

theorem bl_of_set {s X : State} {p0 : Nat} {pt0 v : PThr} (hX : X.pthreads = s.pthreads.set p0 v) (h0 : s.pthreads[p0]? = some pt0) :
    X.bl p0 = v.busyLock ∧ ∀ p, p ≠ p0 → X.bl p = s.bl p := by
  have hlt : p0 < s.pthreads.length := lt_of_getElem?_some h0
  constructor
  · simp [State.bl, hX, hlt]
  · intro p hp
    simp [State.bl, hX, Ne.symm hp]

theorem bl_of_set_same {s X : State} {p0 : Nat} {pt0 v : PThr} (hX : X.pthreads = s.pthreads.set p0 v) (h0 : s.pthreads[p0]? = some pt0)
    (hv : v.busyLock = pt0.busyLock) : ∀ p, X.bl p = s.bl p := by
  intro p
  by_cases hp : p = p0
  · subst hp
    rw [(bl_of_set hX h0).1, hv]
    simp [State.bl, h0]
  · exact (bl_of_set hX h0).2 p hp

theorem PCls.scanIdx_tlHeld {c : PCls} {i : Nat} (h : c.scanIdx = some i) : c.tlHeld = true := by
  cases c with
  | st ph => cases ph <;> simp_all [PCls.scanIdx, PCls.tlHeld]
  | _ => simp_all [PCls.scanIdx]

/-- how a step may change the threads vector: under its lock, which no other activity holds, with the mover at no index of the
vector before or after; and the vector shrinks, unless the step is the spawn -/
structure VecChange (s X : State) (a : Nat) : Prop where
  alone : ∀ b, b ≠ a → (s.cl b).tlHeld = false
  idx : (s.cl a).scanIdx = none
  idx' : (X.cl a).scanIdx = none
  sub : X.threadsVec.Sublist s.threadsVec ∨ X.cl a = .st .spawnRel

theorem PStep.vec {s X : State} {a : Nat} (ht : TlInv s) (hp : PStep s a X) : X.threadsVec = s.threadsVec ∨ VecChange s X a := by
  have free : s.threadsLock = none → ∀ b, b ≠ a → (s.cl b).tlHeld = false := fun hl b _ => by
    cases hb : (s.cl b).tlHeld with
    | false => rfl
    | true => rw [ht b hb] at hl; cases hl
  have mine : (s.cl a).tlHeld = true → ∀ b, b ≠ a → (s.cl b).tlHeld = false := fun ha b hba => by
    cases hb : (s.cl b).tlHeld with
    | false => rfl
    | true => exact absurd (Option.some.inj ((ht b hb).symm.trans (ht a ha))) hba
  cases hp
  case reap hb hc hl vec hsub hX hc' => exact .inr ⟨free hl, by rw [hc]; rfl, by rw [hc']; rfl, .inl (hX.vec ▸ hsub)⟩
  case spawnYes m hc hl hlt hoth hnew hpo ha hX hc' => exact .inr ⟨free hl, by rw [hc]; rfl, by rw [hc']; rfl, .inr hc'⟩
  case dpHangPop m p g pt hb hc hv hp hX hc' =>
    exact .inr ⟨mine (by rw [hc]; rfl), by rw [hc]; rfl, by rw [hc']; rfl, .inl (hX.vec ▸ List.dropLast_sublist _)⟩
  all_goals exact .inl (‹PoolIs X _ _ _ _ _›).vec

theorem holdsBusy_oth {s X : State} {a b p : Nat} (hba : b ≠ a) (hcl : X.cl b = s.cl b) (hvec : X.threadsVec = s.threadsVec ∨ VecChange s X a)
    (h : holdsBusy X b p) : holdsBusy s b p := by
  rcases h with ⟨i, h1, h2⟩ | h1
  · rw [hcl] at h1
    rcases hvec with hv | hv
    · exact Or.inl ⟨i, h1, hv ▸ h2⟩
    · exact absurd (PCls.scanIdx_tlHeld h1) (by rw [hv.alone b hba]; simp)
  · exact Or.inr (hcl ▸ h1)

/-- what is common to the three ways a step treats the flags: the activities that do not move keep theirs, if no flag is taken
from them (`hbl`); the mover's are accounted for separately (`hidx`, `hmine`) -/
theorem bl_step {s X : State} {a : Nat} (hoth : ∀ b, b ≠ a → X.cl b = s.cl b ∨ ((X.cl b).scanIdx = none ∧ (X.cl b).ownBL = none))
    (hvec : X.threadsVec = s.threadsVec ∨ VecChange s X a) (hbl : ∀ b p, b ≠ a → s.bl p = some b → X.bl p = some b)
    (hidx : ∀ i, (X.cl a).scanIdx = some i → ∃ p, X.threadsVec[i]? = some p) (hmine : ∀ p, holdsBusy X a p → X.bl p = some a)
    (h : BlInv s) : BlInv X := by
  constructor
  · intro b i hb
    by_cases hba : b = a
    · exact hidx i (hba ▸ hb)
    · rcases hoth b hba with h1 | ⟨h1, _⟩
      · rw [h1] at hb
        rcases hvec with hv | hv
        · rw [hv]; exact h.idx b i hb
        · exact absurd (PCls.scanIdx_tlHeld hb) (by rw [hv.alone b hba]; simp)
      · rw [h1] at hb; cases hb
  · intro b p hb
    by_cases hba : b = a
    · exact hba ▸ hmine p (hba ▸ hb)
    · rcases hoth b hba with h1 | ⟨h1, h2⟩
      · exact hbl b p hba (h.own b p (holdsBusy_oth hba h1 hvec hb))
      · rcases hb with ⟨i, h3, _⟩ | h3
        · rw [h1] at h3; cases h3
        · rw [h2] at h3; cases h3

theorem bl_keep {s X : State} {a : Nat} (hoth : ∀ b, b ≠ a → X.cl b = s.cl b ∨ ((X.cl b).scanIdx = none ∧ (X.cl b).ownBL = none))
    (hvec : X.threadsVec = s.threadsVec ∨ VecChange s X a) (hbl : ∀ p, p < s.pthreads.length → X.bl p = s.bl p)
    (hsi : (X.cl a).scanIdx = none ∨ (X.cl a).scanIdx = (s.cl a).scanIdx) (hown : (X.cl a).ownBL = none ∨ (X.cl a).ownBL = (s.cl a).ownBL)
    (h : BlInv s) : BlInv X := by
  have hlt : ∀ b p, s.bl p = some b → p < s.pthreads.length := by
    intro b p hb
    simp only [State.bl] at hb
    cases hp : s.pthreads[p]? with
    | none => rw [hp] at hb; cases hb
    | some v => exact lt_of_getElem?_some hp
  have hsame : ∀ b p, s.bl p = some b → X.bl p = some b := fun b p hb => (hbl p (hlt b p hb)).trans hb
  -- while the mover is at an index of the vector, the vector stays
  have hv : ∀ i, (X.cl a).scanIdx = some i → (s.cl a).scanIdx = some i ∧ X.threadsVec = s.threadsVec := by
    intro i hi
    have h1 : (s.cl a).scanIdx = some i := by
      rcases hsi with h1 | h1
      · rw [h1] at hi; cases hi
      · exact h1 ▸ hi
    rcases hvec with hv | hv
    · exact ⟨h1, hv⟩
    · rw [hv.idx] at h1; cases h1
  refine bl_step hoth hvec (fun b p _ => hsame b p) (fun i hi => ?_) (fun p hp => hsame a p (h.own a p ?_)) h
  · rw [(hv i hi).2]; exact h.idx a i (hv i hi).1
  · rcases hp with ⟨i, h1, h2⟩ | h1
    · exact Or.inl ⟨i, (hv i h1).1, (hv i h1).2 ▸ h2⟩
    · rcases hown with h2 | h2
      · rw [h2] at h1; cases h1
      · exact Or.inr (h2 ▸ h1)

theorem bl_acquire {s X : State} {a p0 : Nat} (hoth : ∀ b, b ≠ a → X.cl b = s.cl b) (hvec : X.threadsVec = s.threadsVec)
    (h0 : s.bl p0 = none) (h1 : X.bl p0 = some a) (hbl : ∀ p, p ≠ p0 → X.bl p = s.bl p)
    (hidx : ∀ i, (X.cl a).scanIdx = some i → ∃ p, X.threadsVec[i]? = some p)
    (hmine : ∀ p, holdsBusy X a p → p = p0) (h : BlInv s) : BlInv X := by
  refine bl_step (fun b hb => .inl (hoth b hb)) (.inl hvec) (fun b p _ hb => ?_) hidx (fun p hp => hmine p hp ▸ h1) h
  rw [hbl p (fun e => by rw [e, h0] at hb; cases hb)]; exact hb

theorem bl_release {s X : State} {a p0 : Nat} (hoth : ∀ b, b ≠ a → X.cl b = s.cl b) (hvec : X.threadsVec = s.threadsVec)
    (h0 : holdsBusy s a p0) (hbl : ∀ p, p ≠ p0 → X.bl p = s.bl p)
    (hidx : (X.cl a).scanIdx = none) (hown : (X.cl a).ownBL = none) (h : BlInv s) : BlInv X := by
  refine bl_step (fun b hb => .inl (hoth b hb)) (.inl hvec) (fun b p hba hb => ?_) (fun i hi => by rw [hidx] at hi; cases hi) (fun p hp => ?_) h
  · rw [hbl p (fun e => by rw [e, h.own a p0 h0] at hb; exact hba (Option.some.inj hb).symm)]; exact hb
  · rcases hp with ⟨i, h3, _⟩ | h3
    · rw [hidx] at h3; cases h3
    · rw [hown] at h3; cases h3

theorem bl_same_of_pth {s X : State} (h : X.pthreads = s.pthreads) : ∀ p, p < s.pthreads.length → X.bl p = s.bl p := by
  intro p _; simp only [State.bl, h]

theorem bl_pstep {s X : State} {a : Nat} (ht : TlInv s) (h : BlInv s) (hp : PStep s a X) : BlInv X := by
  have hoth : ∀ b, b ≠ a → X.cl b = s.cl b ∨ ((X.cl b).scanIdx = none ∧ (X.cl b).ownBL = none) :=
    fun b hb => (hp.cl_oth hb).imp_right fun (e : X.cl b = _) => e ▸ ⟨rfl, rfl⟩
  have hvec := hp.vec ht
  cases hp
  -- a flag is taken
  case scanAcq i p pt hb hc hv hp hl hX hc' =>
    have hs := bl_of_set hX.pth hp
    refine bl_acquire (p0 := p) hb.cl hX.vec (by simp [State.bl, hp, hl]) hs.1 hs.2 (fun j hj => ?_) (fun p' hp' => ?_) h
    · rw [hc'] at hj; cases hj; exact ⟨p, hX.vec ▸ hv⟩
    · rcases hp' with ⟨j, h3, h4⟩ | h3 <;> rw [hc'] at h3 <;> cases h3
      exact (Option.some.inj ((hX.vec ▸ h4 : s.threadsVec[i]? = some p').symm.trans hv))
  case ptLockBusy p pt hb hc hp hl hX hc' =>
    have hs := bl_of_set hX.pth hp
    refine bl_acquire (p0 := p) hb.cl hX.vec (by simp [State.bl, hp, hl]) hs.1 hs.2 (fun j hj => by rw [hc'] at hj; cases hj) (fun p' hp' => ?_) h
    rcases hp' with ⟨j, h3, _⟩ | h3 <;> rw [hc'] at h3 <;> cases h3
    rfl
  -- a flag is released
  case scanBusy i p pt hb hc hv hp _ hX hc' | scanRel i p _ pt hb hc hv hp hX hc' =>
    exact bl_release (p0 := p) hb.cl hX.vec (.inl ⟨i, by rw [hc]; rfl, hv⟩) (bl_of_set hX.pth hp).2 (by rw [hc']; rfl) (by rw [hc']; rfl) h
  case unlockBusySome p _ pt hb hc hp hX hc' | unlockBusyNone p pt hb hc _ hp hX hc' =>
    exact bl_release (p0 := p) hb.cl hX.vec (.inr (by rw [hc]; rfl)) (bl_of_set hX.pth hp).2 (by rw [hc']; rfl) (by rw [hc']; rfl) h
  -- a thread record is written, but not its flag
  case scanSend i p pt hb hc hv hp hbusy hX hc' | ptGot p pt hb hc hpo hp hm hX hc' | ptExit p pt hoth' hc hpo hp hm hh hX hc' hpo'
      | dpHangPop m p g pt hb hc hv hp hX hc' =>
    exact bl_keep hoth hvec (fun p' _ => bl_of_set_same hX.pth hp rfl p') (by simp [*, PCls.scanIdx]) (by simp [*, PCls.ownBL]) h
  case spawnYes m hc hl hlt hoth' hnew hpo ha hX hc' =>
    exact bl_keep hoth hvec (fun p hp => by simp only [State.bl, hX.pth, List.getElem?_append_left hp]) (by simp [*, PCls.scanIdx]) (by simp [*, PCls.ownBL]) h
  -- the thread records are not touched
  all_goals
    exact bl_keep hoth hvec (bl_same_of_pth (‹PoolIs X _ _ _ _ _›).pth)
      (by simp [*, ↓PCls.of_plain, PCls.scanIdx]) (by simp [*, ↓PCls.of_plain, PCls.ownBL]) h

structure ThrInv (s : State) : Prop where
  /-- a thread whose record says busy is still there: some activity is that pool thread -/
  exist : ∀ p pt, s.pthreads[p]? = some pt → pt.busy = true → ∃ w, s.po w = some p
  /-- a busy thread that waits for a message has one in its mailbox, so it is not asleep -/
  restOk : ∀ w p pt, s.po w = some p → s.pthreads[p]? = some pt → pt.busy = true → (s.cl w).rest = true → 0 < pt.mailbox
  /-- every thread listed in the threads vector is alive: some activity is that pool thread -/
  live : ∀ p, p ∈ s.threadsVec → ∃ w, s.po w = some p
  /-- every thread listed in the vector has a record, and its channel is open (its sender has not been dropped) -/
  hv : ∀ p, p ∈ s.threadsVec → ∃ pt, s.pthreads[p]? = some pt ∧ pt.hungUp = false
  /-- no thread is listed twice in the vector -/
  nodup : s.threadsVec.Nodup

theorem ThrInv.hung {s : State} (h : ThrInv s) {p : Nat} {pt : PThr} (hm : p ∈ s.threadsVec) (hp : s.pthreads[p]? = some pt) : pt.hungUp = false := by
  obtain ⟨pt', h1, h2⟩ := h.hv p hm
  cases hp.symm.trans h1
  exact h2

theorem pth_set_lookup {s X : State} {p0 : Nat} {pt0 v : PThr} (hX : X.pthreads = s.pthreads.set p0 v) (h0 : s.pthreads[p0]? = some pt0) (p : Nat) :
    X.pthreads[p]? = if p = p0 then some v else s.pthreads[p]? := by
  rw [hX]; exact getElem?_set_of h0 v p

theorem po_all_of {s X : State} {a : Nat} (hoth : ∀ b, b ≠ a → X.pcAt b = s.pcAt b) (hpo : X.po a = s.po a) : ∀ b, X.po b = s.po b := by
  intro b
  by_cases hba : b = a
  · subst hba; exact hpo
  · simp only [State.po, hoth b hba]

/-- what a step that only touches flags the thread invariant does not read does to the thread records -/
def PthSame (s X : State) : Prop :=
  ∀ p : Nat, (∀ pt' : PThr, X.pthreads[p]? = some pt' → ∃ pt : PThr, s.pthreads[p]? = some pt ∧ pt'.busy = pt.busy ∧ pt'.mailbox = pt.mailbox ∧ pt'.hungUp = pt.hungUp)
     ∧ (∀ pt : PThr, s.pthreads[p]? = some pt → ∃ pt' : PThr, X.pthreads[p]? = some pt' ∧ pt'.hungUp = pt.hungUp)

theorem pthSame_of_eq {s X : State} (h : X.pthreads = s.pthreads) : PthSame s X := by
  intro p; rw [h]; exact ⟨fun pt' h1 => ⟨pt', h1, rfl, rfl, rfl⟩, fun pt h1 => ⟨pt, h1, rfl⟩⟩

theorem pthSame_of_set {s X : State} {p0 : Nat} {pt0 v : PThr} (hX : X.pthreads = s.pthreads.set p0 v) (h0 : s.pthreads[p0]? = some pt0)
    (h1 : v.busy = pt0.busy) (h2 : v.mailbox = pt0.mailbox) (h3 : v.hungUp = pt0.hungUp) : PthSame s X := by
  intro p
  rw [pth_set_lookup hX h0 p]
  by_cases hp : p = p0
  · subst hp
    simp only [↓reduceIte, Option.some.injEq]
    exact ⟨fun pt' e => ⟨pt0, h0, by rw [← e]; exact ⟨h1, h2, h3⟩⟩, fun pt e => ⟨v, rfl, by rw [h0] at e; rw [← Option.some.inj e]; exact h3⟩⟩
  · simp only [hp, ↓reduceIte]
    exact ⟨fun pt' e => ⟨pt', e, rfl, rfl, rfl⟩, fun pt e => ⟨pt, e, rfl⟩⟩

theorem thr_keep {s X : State} {a : Nat} (hoth : ∀ b, b ≠ a → X.pcAt b = s.pcAt b) (hpo : X.po a = s.po a)
    (hrest : (X.cl a).rest = true → (s.cl a).rest = true) (hpth : PthSame s X) (hvec : X.threadsVec.Sublist s.threadsVec)
    (h : ThrInv s) : ThrInv X := by
  have hpo' := po_all_of hoth hpo
  constructor
  · intro p pt' hp hb
    obtain ⟨pt, h1, h2, _, _⟩ := (hpth p).1 pt' hp
    obtain ⟨w, hw⟩ := h.exist p pt h1 (by rw [← h2]; exact hb)
    exact ⟨w, by rw [hpo']; exact hw⟩
  · intro w p pt' hw hp hb hr
    obtain ⟨pt, h1, h2, h3, _⟩ := (hpth p).1 pt' hp
    rw [h3]
    refine h.restOk w p pt (by rw [← hpo']; exact hw) h1 (by rw [← h2]; exact hb) ?_
    by_cases hwa : w = a
    · subst hwa; exact hrest hr
    · simp only [State.cl, hoth w hwa] at hr; exact hr
  · intro p hp
    obtain ⟨w, hw⟩ := h.live p (hvec.subset hp)
    exact ⟨w, by rw [hpo']; exact hw⟩
  · intro p hp
    obtain ⟨pt, h1, h2⟩ := h.hv p (hvec.subset hp)
    obtain ⟨pt', h3, h4⟩ := (hpth p).2 pt h1
    exact ⟨pt', h3, by rw [h4]; exact h2⟩
  · exact h.nodup.sublist hvec

/-- The record of thread `p0` is rewritten to `v`; the vector shrinks or stays; every activity stays the pool thread it was, except
that the mover may stop being `p0`; only an activity that is `p0` may come to rest.  What is asked of `v` (`hex`, `hmail`, `hin`) is the
invariant at `p0`; at every other thread it is inherited. -/
theorem thr_set {s X : State} {a p0 : Nat} {pt0 v : PThr} (hoth : ∀ b, b ≠ a → X.pcAt b = s.pcAt b)
    (hpo : X.po a = s.po a ∨ (X.po a = none ∧ s.po a = some p0)) (hrest : (X.cl a).rest = true → (s.cl a).rest = true ∨ s.po a = some p0)
    (hX : X.pthreads = s.pthreads.set p0 v) (h0 : s.pthreads[p0]? = some pt0) (hvec : X.threadsVec.Sublist s.threadsVec)
    (hex : v.busy = true → ∃ w, X.po w = some p0)
    (hmail : v.busy = true → ∀ w, X.po w = some p0 → (X.cl w).rest = true → 0 < v.mailbox)
    (hin : p0 ∈ X.threadsVec → v.hungUp = false ∧ ∃ w, X.po w = some p0) (h : ThrInv s) : ThrInv X := by
  have fwd : ∀ w p, p ≠ p0 → s.po w = some p → X.po w = some p := by
    intro w p hp hw
    by_cases hwa : w = a
    · subst hwa
      rcases hpo with h1 | ⟨_, h1⟩
      · exact h1.trans hw
      · exact absurd (Option.some.inj (hw.symm.trans h1)) hp
    · simp only [State.po, hoth w hwa]; exact hw
  have bwd : ∀ w p, p ≠ p0 → X.po w = some p → s.po w = some p ∧ ((X.cl w).rest = true → (s.cl w).rest = true) := by
    intro w p hp hw
    by_cases hwa : w = a
    · subst hwa
      rcases hpo with h1 | ⟨h1, _⟩
      · refine ⟨h1 ▸ hw, fun hr => (hrest hr).resolve_right fun h2 => hp ?_⟩
        exact Option.some.inj ((h1 ▸ hw : s.po w = some p).symm.trans h2)
      · rw [h1] at hw; cases hw
    · simp only [State.po, State.cl, hoth w hwa] at hw ⊢; exact ⟨hw, id⟩
  constructor
  · intro p pt' hp hb
    rw [pth_set_lookup hX h0 p] at hp
    by_cases hpp : p = p0
    · subst hpp
      simp only [↓reduceIte, Option.some.injEq] at hp
      exact hex (hp ▸ hb)
    · simp only [hpp, ↓reduceIte] at hp
      obtain ⟨w, hw⟩ := h.exist p pt' hp hb
      exact ⟨w, fwd w p hpp hw⟩
  · intro w p pt' hw hp hb hr
    rw [pth_set_lookup hX h0 p] at hp
    by_cases hpp : p = p0
    · subst hpp
      simp only [↓reduceIte, Option.some.injEq] at hp
      subst hp
      exact hmail hb w hw hr
    · simp only [hpp, ↓reduceIte] at hp
      obtain ⟨h1, h2⟩ := bwd w p hpp hw
      exact h.restOk w p pt' h1 hp hb (h2 hr)
  · intro p hp
    by_cases hpp : p = p0
    · subst hpp; exact (hin hp).2
    · obtain ⟨w, hw⟩ := h.live p (hvec.subset hp)
      exact ⟨w, fwd w p hpp hw⟩
  · intro p hp
    rw [pth_set_lookup hX h0 p]
    by_cases hpp : p = p0
    · subst hpp
      simp only [↓reduceIte]
      exact ⟨v, rfl, (hin hp).1⟩
    · simp only [hpp, ↓reduceIte]; exact h.hv p (hvec.subset hp)
  · exact h.nodup.sublist hvec

theorem not_mem_dropLast_of_nodup {l : List Nat} {p : Nat} (hn : l.Nodup) (hl : l.getLast? = some p) : p ∉ l.dropLast := by
  obtain ⟨ys, rfl⟩ := List.getLast?_eq_some_iff.mp hl
  rw [List.dropLast_concat]
  exact fun hm => (List.nodup_append.mp hn).2.2 p hm p (List.mem_singleton_self p) rfl

theorem thr_spawn {s X : State} {a : Nat} {v : PThr} (hoth : ∀ b, b ≠ a → b ≠ s.acts.length → X.pcAt b = s.pcAt b) (hpo : X.po a = s.po a)
    (hrest : (X.cl a).rest = false) (hnew : X.pcAt s.acts.length = .ptRecv s.pthreads.length)
    (hX : X.pthreads = s.pthreads ++ [v]) (hvb : v.busy = false) (hvh : v.hungUp = false)
    (hvec : X.threadsVec = s.threadsVec ++ [s.pthreads.length]) (h : ThrInv s) : ThrInv X := by
  have hsn : s.po s.acts.length = none := congrArg Pc.poolOf (pcAt_len s)
  have hpo' : ∀ b, b ≠ s.acts.length → X.po b = s.po b := by
    intro b hbn
    by_cases hba : b = a
    · subst hba; exact hpo
    · simp only [State.po, hoth b hba hbn]
  have hold : ∀ w p, s.po w = some p → X.po w = some p := by
    intro w p hw
    have : w ≠ s.acts.length := fun e => by rw [e, hsn] at hw; cases hw
    rw [hpo' w this]; exact hw
  have hlook : ∀ p pt', X.pthreads[p]? = some pt' → s.pthreads[p]? = some pt' ∨ (p = s.pthreads.length ∧ pt'.busy = false ∧ pt'.hungUp = false) := by
    intro p pt' hp
    rw [hX, getElem?_append_one] at hp
    split at hp
    · next e => cases hp; exact .inr ⟨e, hvb, hvh⟩
    · exact .inl hp
  constructor
  · intro p pt' hp hb
    rcases hlook p pt' hp with h1 | ⟨_, h2, _⟩
    · obtain ⟨w, hw⟩ := h.exist p pt' h1 hb
      exact ⟨w, hold w p hw⟩
    · rw [h2] at hb; cases hb
  · intro w p pt' hw hp hb hr
    rcases hlook p pt' hp with h1 | ⟨_, h2, _⟩
    · by_cases hwn : w = s.acts.length
      · subst hwn
        cases (congrArg Pc.poolOf hnew).symm.trans hw
        exact absurd (lt_of_getElem?_some h1) (Nat.lt_irrefl _)
      · rw [hpo' w hwn] at hw
        refine h.restOk w p pt' hw h1 hb ?_
        by_cases hwa : w = a
        · subst hwa; rw [hrest] at hr; cases hr
        · simp only [State.cl, hoth w hwa hwn] at hr; exact hr
    · rw [h2] at hb; cases hb
  · intro p hp
    rw [hvec, List.mem_append, List.mem_singleton] at hp
    rcases hp with hp | hp
    · obtain ⟨w, hw⟩ := h.live p hp
      exact ⟨w, hold w p hw⟩
    · subst hp
      exact ⟨s.acts.length, congrArg Pc.poolOf hnew⟩
  · intro p hp
    rw [hvec, List.mem_append, List.mem_singleton] at hp
    rcases hp with hp | hp
    · obtain ⟨pt, h1, h2⟩ := h.hv p hp
      refine ⟨pt, ?_, h2⟩
      rw [hX, List.getElem?_append_left (lt_of_getElem?_some h1)]; exact h1
    · subst hp
      exact ⟨v, by rw [hX]; simp, hvh⟩
  · rw [hvec]
    refine List.nodup_append.mpr ⟨h.nodup, by simp, ?_⟩
    intro x hx y hy
    rw [List.mem_singleton] at hy
    subst hy
    obtain ⟨pt, h1, _⟩ := h.hv x hx
    have := lt_of_getElem?_some h1
    omega

theorem sub_of_eq {l l' : List Nat} (h : l' = l) : l'.Sublist l := by rw [h]; exact List.Sublist.refl _

theorem thr_pstep {s X : State} {a : Nat} (hu : PoInv s) (h : ThrInv s) (hp : PStep s a X) : ThrInv X := by
  cases hp
  -- a scan hands a message to an idle thread of the vector
  case scanSend i p pt hb hc hv hp hbusy hX hc' =>
    have hlive : ∃ w, X.po w = some p := (h.live p (List.mem_of_getElem? hv)).imp fun w hw => (po_all_of hb.oth hb.po w).trans hw
    exact thr_set hb.oth (.inl hb.po) (fun hr => by rw [hc'] at hr; cases hr) hX.pth hp (sub_of_eq hX.vec) (fun _ => hlive)
      (fun _ _ _ _ => Nat.succ_pos _) (fun _ => ⟨h.hung (pt := pt) (List.mem_of_getElem? hv) hp, hlive⟩) h
  -- a pool thread takes its message: it is the only activity that is this thread, and it does not rest afterwards
  case ptGot p pt hb hc hpo hp hm hX hc' =>
    have hme : X.po a = some p := hb.po.trans hpo
    refine thr_set hb.oth (.inl hb.po) (fun hr => by rw [hc'] at hr; cases hr) hX.pth hp (sub_of_eq hX.vec) (fun _ => ⟨a, hme⟩)
      (fun _ w hw hr => ?_) (fun hm => ⟨h.hung (pt := pt) (hX.vec ▸ hm) hp, a, hme⟩) h
    cases hu.uniq w a p (po_all_of hb.oth hb.po w ▸ hw) hpo
    rw [hc'] at hr; cases hr
  -- a pool thread whose channel was closed finds its mailbox empty and exits: it was not busy, and not in the vector
  case ptExit p pt hoth hc hpo hp hm hh hX hc' hpo' =>
    have hnb : pt.busy = false := by
      cases hb : pt.busy with
      | false => rfl
      | true => have := h.restOk a p pt hpo hp hb (by rw [hc]; rfl); omega
    exact thr_set hoth (.inr ⟨hpo', hpo⟩) (fun hr => by rw [hc'] at hr; cases hr) hX.pth hp (sub_of_eq hX.vec)
      -- the record written is `pt` with `exited` set: its `busy` is `pt.busy`, which is down
      (fun hb => by rw [show _ = pt.busy from rfl, hnb] at hb; cases hb) (fun hb => by rw [show _ = pt.busy from rfl, hnb] at hb; cases hb)
      (fun hm => by rw [h.hung (hX.vec ▸ hm) hp] at hh; cases hh) h
  -- a pool thread that found nothing to do clears its busy flag
  case unlockBusyNone p pt hb hc hpo hp hX hc' =>
    exact thr_set hb.oth (.inl hb.po) (fun _ => .inr hpo) hX.pth hp (sub_of_eq hX.vec) (fun hb => nomatch hb) (fun hb => nomatch hb)
      (fun hm => ⟨h.hung (pt := pt) (hX.vec ▸ hm) hp, a, hb.po.trans hpo⟩) h
  -- despawn closes the channel of the last thread of the vector and takes it off the vector
  case dpHangPop m p g pt hb hc hv hp hX hc' =>
    have hpo' := po_all_of hb.oth hb.po
    refine thr_set hb.oth (.inl hb.po) (fun hr => by rw [hc'] at hr; cases hr) hX.pth hp (hX.vec ▸ List.dropLast_sublist _)
      (fun hb' => (h.exist p pt hp hb').imp fun w hw => (hpo' w).trans hw) (fun hb' w hw hr => h.restOk w p pt (hpo' w ▸ hw) hp hb' ?_)
      (fun hm => absurd (hX.vec ▸ hm) (not_mem_dropLast_of_nodup h.nodup hv)) h
    by_cases hwa : w = a
    · rw [hwa, hc'] at hr; cases hr
    · simp only [State.cl, hb.oth w hwa] at hr; exact hr
  case spawnYes m hc hl hlt hoth hnew hpo ha hX hc' => exact thr_spawn hoth hpo (by rw [hc']; rfl) hnew hX.pth rfl rfl hX.vec h
  case reap hb hc hl vec hsub hX hc' => exact thr_keep hb.oth hb.po (by simp [*, PCls.rest]) (pthSame_of_eq hX.pth) (hX.vec ▸ hsub) h
  -- only a busy flag is written
  case scanAcq i p pt hb hc hv hp hl hX hc' | scanBusy i p pt hb hc hv hp hbusy hX hc' | scanRel i p f pt hb hc hv hp hX hc'
      | ptLockBusy p pt hb hc hp hl hX hc' | unlockBusySome p q pt hb hc hp hX hc' =>
    exact thr_keep hb.oth hb.po (by simp [*, PCls.rest]) (pthSame_of_set hX.pth hp rfl rfl rfl) (sub_of_eq hX.vec) h
  -- neither the thread records nor the vector are touched
  all_goals
    exact thr_keep (‹Base s a X›).oth (‹Base s a X›).po (by simp [*, ↓PCls.of_plain, PCls.rest]) (pthSame_of_eq (‹PoolIs X _ _ _ _ _›).pth)
      (sub_of_eq (‹PoolIs X _ _ _ _ _›).vec) h

/-- The configured maximum, and every maximum in flight, satisfies `P`.  With `P n := n ≤ M` this is what bounds the pool (a spawn
decides with the maximum it read a few critical sections earlier); with `P n := 1 ≤ n` it is what I_watch needs of a
`schedule_thread` call that decides not to spawn. -/
structure MaxInv (P : Nat → Prop) (s : State) : Prop where
  /-- the configured maximum satisfies `P` -/
  max : P s.maxThreads
  /-- so does every maximum in flight: the one a `set_max_threads` call is about to store, the one a `schedule_thread` call has read and
  is about to compare the vector with -/
  cls : ∀ b, (s.cl b).maxOk P

/-- Only `smSet n` stores a maximum, the one its class carries; only `readMax` puts a maximum in flight, the current one. -/
theorem max_pstep {P : Nat → Prop} {s X : State} {a : Nat} (h : MaxInv P s) (hp : PStep s a X) : MaxInv P X := by
  have hoth : ∀ b, b ≠ a → (X.cl b).maxOk P := fun b hb => by
    rcases hp.cl_oth hb with e | e <;> rw [e]
    · exact h.cls b
    · trivial
  have ha := h.cls a
  suffices P X.maxThreads ∧ (X.cl a).maxOk P from ⟨this.1, fun b => if hb : b = a then hb ▸ this.2 else hoth b hb⟩
  cases hp
  case smSet n hb hc hX hc' => rw [hX.max]; rw [hc] at ha; exact ⟨ha, by simp [hc', ↓PCls.of_plain]⟩
  case readMax hb hc hX hc' => rw [hX.max, hc']; exact ⟨h.max, h.max⟩
  case neutral hb hc hX | claim f hb hc hX => rw [hX.max, hc]; exact ⟨h.max, ha⟩
  all_goals exact ⟨(‹PoolIs X _ _ _ _ _›).max ▸ h.max, by simp [*, ↓PCls.of_plain, PCls.maxOk]⟩

/-- a new `set_max_threads(n)` call comes with `P n` -/
theorem MaxInv.penv {P : Nat → Prop} {s X : State} (h : MaxInv P s) (he : PEnv P s X) : MaxInv P X := by
  refine ⟨he.pool.max ▸ h.max, fun b => ?_⟩
  rcases he.cl b with h1 | ⟨-, n, hn, h2⟩
  · rw [h1]; exact h.cls b
  · rw [h2]; exact hn

end Desync
