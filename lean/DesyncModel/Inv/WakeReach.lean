/-
I_wake holds, in both contexts, in every state reachable without polling a returned future or using `future_sync`.
-/
import DesyncModel.Inv.WakeStep
import DesyncModel.Inv.JobReach

namespace Desync
open Gen

/-- the environment never polls a returned future and never calls `future_sync` -/
def labelNT : Label → Bool
  | .invoke _ _ (.await _) | .invoke _ _ (.pollOnce _) | .invoke _ _ (.fsync _ _) => false
  | .spuriousPoll _ => false
  | _ => true

inductive ReachableNT : State → Prop where
  | init (nq ng max : Nat) : ReachableNT (initState nq ng max)
  | initP (ps : List Bool) (ng max : Nat) : ReachableNT (initStateP ps ng max)
  | step {s s' : State} (l : Label) : ReachableNT s → labelNT l = true → next s l = some s' → ReachableNT s'

theorem ReachableNT.reachable {s : State} (h : ReachableNT s) : Reachable s := by
  induction h with
  | init nq ng max => exact Reachable.init nq ng max
  | initP ps ng max => exact Reachable.initP ps ng max
  | step l _ _ hs ih => exact Reachable.step l ih hs

/-- `Reachable.invariant` for these executions: the environment's moves come with `labelNT`. -/
theorem ReachableNT.invariant {P : State → Prop} (h0 : ∀ ps ng max, P (initStateP ps ng max))
    (hstep : ∀ {s a act s'}, ReachableNT s → P s → s.acts[a]? = some act → act.child = none → Step s a act s' → P s')
    (henv : ∀ {s l s'}, ReachableNT s → P s → labelNT l = true → EnvStep s l s' → P s') : ∀ {s}, ReachableNT s → P s := by
  intro s hr
  induction hr with
  | init nq ng max => exact initState_eq nq ng max ▸ h0 _ ng max
  | initP ps ng max => exact h0 ps ng max
  | step l hr hl hn ih =>
    rcases next_cases hn with ⟨a, act, -, ha, hc, hst⟩ | he
    · exact hstep hr ih ha hc hst
    · exact henv hr ih hl he

structure NtWake (s : State) : Prop where
  nt : NoTaskInv s
  wake : WakeInv s

/-- under the restricted calls no call starts in the task-context code or is about to queue a slot job -/
theorem EnvStep.noTaskInv {s s' : State} {l : Label} (h : NoTaskInv s) (he : EnvStep s l s') (hl : labelNT l = true) : NoTaskInv s' :=
  ⟨fun b => he.pcAt_rel_ok (R := fun pc pc' => pc.noTask = true → pc'.noTask = true) (ok := fun c => labelNT (.invoke 0 none c) = true)
      (fun _ => id) (fun _ _ => id) (fun _ _ _ => id) (fun _ => nofun) (fun _ => nofun) (fun _ => rfl)
      (fun hst hok _ => by
        cases hst
        case awaitFut | awaitSf => split at hok <;> cases hok
        case fsync => cases hok
        all_goals rfl)
      (fun _ _ c e => by subst e; cases c <;> exact hl) b (h.pcs b),  -- `labelNT` looks at the call only
    h.jobs.same he.sameCore.jobs⟩

/-- no move of the environment changes what I_wake sees of a program counter: a new call starts outside the windows with no wake-up to
deliver, a closure body ends in its continuation, a parked caller stays in its park loop -/
theorem envPcRel_wakeView : EnvPcRel fun pc pc' => pc'.wakeView = pc.wakeView where
  refl _ := rfl
  body _ _ := rfl
  parked _ _ _ := rfl
  pfBlocked _ := rfl
  sfBlocked _ := rfl
  ret := rfl
  entry hst := by cases hst <;> rfl

theorem EnvStep.iwake {s s' : State} {l : Label} (hh : HolderInv s) (hw : WfInv s) (hf : FullInv s) (hp : ParkInv s) (h : IWake s)
    (he : EnvStep s l s') : IWake s' :=
  have hpc := fun b => Pc.WakeSoft.of_view (he.pcAt_blind envPcRel_wakeView b)
  ⟨h.pool.soft hh hw hf hp (fun b q hb => .inl ((hpc b).wakesQ q hb)) (fun b => (hpc b).requeuing) (fun b => (hpc b).pending)
      (fun _ j hr => .inl ((regW_congr he.sameCore.jobs j).trans hr)) (QSoft.of_qs he.sameCore.qs),
    h.thread.soft hh hw hf hp (fun _ hb => he.threadOf hb) (fun b q t hb => .inl ((hpc b).wakesT q t hb)) (fun b => (hpc b).parkedJ)
      (fun b => (hpc b).polledT) (fun _ j _ hr => .inl ((regW_congr he.sameCore.jobs j).trans hr))
      fun q => (QSoft.of_qs he.sameCore.qs q).toQStSoft⟩

theorem iwake_init (s : State) (ha : s.acts = []) (hj : s.jobs = []) (hq : ∀ q, s.qSt q ≠ some .waitingForWake) : NoTaskInv s ∧ IWake s := by
  have hpc := pcAt_of_nil ha
  refine ⟨⟨fun b => by rw [hpc]; rfl, fun jb hm => by rw [hj] at hm; cases hm⟩, ⟨fun q hst => absurd hst (hq q), ?_, ?_⟩, ?_, ?_⟩
  all_goals intro b; rw [hpc]; exact nofun

theorem iwake_reachable {s : State} (hr : ReachableNT s) : NoTaskInv s ∧ IWake s := by
  refine ReachableNT.invariant (P := fun s => NoTaskInv s ∧ IWake s) (fun ps ng max => ?_) ?_ ?_ hr
  · refine iwake_init _ rfl rfl fun q hst => ?_
    rcases qSt_initP hst with e | e <;> cases e
  · intro s a act s' hr h ha _ hst
    obtain ⟨hw, hf⟩ := fullInv_reachable hr.reachable
    exact ⟨hst.noTaskInv h.1 ha, hst.iwake h.1 (holderInv_reachable hr.reachable) hw hf (parkInv_reachable hr.reachable) h.2 ha⟩
  · intro s l s' hr h hl he
    obtain ⟨hw, hf⟩ := fullInv_reachable hr.reachable
    exact ⟨he.noTaskInv h.1 hl, he.iwake (holderInv_reachable hr.reachable) hw hf (parkInv_reachable hr.reachable) h.2⟩

theorem ntWake_reachable {s : State} (hr : ReachableNT s) : NtWake s := ⟨(iwake_reachable hr).1, (iwake_reachable hr).2.pool⟩

theorem wakeTInv_reachable {s : State} (hr : ReachableNT s) : WakeTInv s := (iwake_reachable hr).2.thread

/-! `NtWake` when only the `child` link of an activity is rewritten; the environment's half above needs no such lemma. -/

theorem ntWake_setChild {s : State} (hr : Reachable s) (h : NtWake s) (p : Nat) (c : Option Nat) (X : State)
    (hX : X = (match s.acts[p]? with | some pv => s.setAct p { pv with child := c } | none => s)) : NtWake X := by
  subst hX
  split
  · next pv hpv =>
    have hpc : ∀ b, (s.setAct p { pv with child := c }).pcAt b = s.pcAt b := pcAt_setAct_samepc _ p pv _ hpv rfl
    obtain ⟨hw, hf⟩ := fullInv_reachable hr
    exact ⟨⟨fun b => hpc b ▸ h.nt.pcs b, h.nt.jobs.same rfl⟩,
      h.wake.soft (holderInv_reachable hr) hw hf (parkInv_reachable hr) (fun b q hb => .inl (hpc b ▸ hb)) (fun b x hb => hpc b ▸ hb)
        (fun b q hb => hpc b ▸ hb) (fun q j hr => .inl hr) (QSoft.of_qs rfl)⟩
  · exact h

end Desync
