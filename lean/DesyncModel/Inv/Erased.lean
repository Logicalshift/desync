/-
The erased-job invariant (C14) for states of the scheduler model: the projections it reads and how the state setters act on
them; what can happen to an erased job in terms of the state — it is created, its box is dropped, a job that is not done changes
hands.
-/
import DesyncModel.Inv.ErasedAbs
import DesyncModel.Inv.JobInv

namespace Desync
open Gen

/-- owner and kind of a lifetime-erased job -/
def kOf (b : Job) : Option (Nat × Bool) :=
  match b.kind with
  | .erasedDrain o _ => some (o, false)
  | .erasedBg o _ => some (o, true)
  | _ => none

theorem kOf_of_not_erased {b : Job} (h : (!b.kind.isErased) = true) : kOf b = none := by
  unfold kOf; cases hk : b.kind <;> simp_all [JobKind.isErased]

def State.jobK (s : State) (j : Nat) : Option (Nat × Bool) := (s.jobs[j]?).bind kOf
def State.jobD (s : State) (j : Nat) : Bool := match s.jobs[j]? with | some b => b.ph == .done | none => false

theorem jobK_of {s : State} {j : Nat} {b : Job} (h : s.jobs[j]? = some b) : s.jobK j = kOf b := by simp [State.jobK, h]
theorem jobD_of {s : State} {j : Nat} {b : Job} (h : s.jobs[j]? = some b) : s.jobD j = (b.ph == .done) := by simp [State.jobD, h]

theorem jobK_congr {s X : State} (h : X.jobs = s.jobs) (i : Nat) : X.jobK i = s.jobK i := by simp only [State.jobK, h]
theorem jobD_congr {s X : State} (h : X.jobs = s.jobs) (i : Nat) : X.jobD i = s.jobD i := by simp only [State.jobD, h]

theorem isReady_congr {s X : State} (h : X.ready = s.ready) (i : Nat) : X.isReady i = s.isReady i := by simp only [State.isReady, h]

theorem jobK_of_set {s X : State} {j : Nat} {jb v : Job} (hjb : s.jobs[j]? = some jb) (hX : X.jobs = s.jobs.set j v) (i : Nat) :
    X.jobK i = if i = j then kOf v else s.jobK i := by
  by_cases e : i = j <;> simp [State.jobK, hX, getElem?_set_of hjb, e]

theorem jobD_of_set {s X : State} {j : Nat} {jb v : Job} (hjb : s.jobs[j]? = some jb) (hX : X.jobs = s.jobs.set j v) (i : Nat) :
    X.jobD i = if i = j then v.ph == .done else s.jobD i := by
  by_cases e : i = j <;> simp [State.jobD, hX, getElem?_set_of hjb, e]

theorem jobK_of_append {s X : State} {nj : Job} (hX : X.jobs = s.jobs ++ [nj]) (i : Nat) :
    X.jobK i = if i = s.jobs.length then kOf nj else s.jobK i := by
  by_cases e : i = s.jobs.length <;> simp [State.jobK, hX, getElem?_append_one, e]

theorem jobD_of_append {s X : State} {nj : Job} (hX : X.jobs = s.jobs ++ [nj]) (i : Nat) :
    X.jobD i = if i = s.jobs.length then (nj.ph == .done) else s.jobD i := by
  by_cases e : i = s.jobs.length <;> simp [State.jobD, hX, getElem?_append_one, e]

theorem jobK_fresh (s : State) : s.jobK s.jobs.length = none := by simp [State.jobK]
theorem jobD_fresh (s : State) : s.jobD s.jobs.length = false := by simp [State.jobD]

theorem jobK_of_kinds {s X : State} (h : X.jobs.map Job.kind = s.jobs.map Job.kind) (i : Nat) : X.jobK i = s.jobK i := by
  have e : (X.jobs[i]?).map Job.kind = (s.jobs[i]?).map Job.kind := by rw [← List.getElem?_map, ← List.getElem?_map, h]
  simp only [State.jobK]
  cases hx : X.jobs[i]? <;> cases hs : s.jobs[i]? <;> simp_all [kOf]

theorem jobD_of_phases {s X : State} (h : X.jobs.map Job.ph = s.jobs.map Job.ph) (i : Nat) : X.jobD i = s.jobD i := by
  have e : (X.jobs[i]?).map Job.ph = (s.jobs[i]?).map Job.ph := by rw [← List.getElem?_map, ← List.getElem?_map, h]
  simp only [State.jobD]
  cases hx : X.jobs[i]? <;> cases hs : s.jobs[i]? <;> simp_all

/-- the erased job a `sync` call is waiting for: its program counter is inside the loop of sync_drain / sync_background -/
def Pc.awaited : Pc → Option Nat
  | .sdCheck _ j => some j
  | .sbLockReady _ j | .sbTest _ j | .sbClaim _ j | .sbClaimRel _ j _ | .sbRelReady _ j | .sbStealTest _ j
  | .sbStealIdle _ j | .sbWait _ j | .sbWaiting _ j => some j
  | .begin _ k | .body _ k | .unwinding k => k.awaited
  | .stReap k | .stScanLock k | .stScan _ k | .stScanHeld _ k | .stScanRel _ _ k
  | .stScanUnlock _ k | .stReadMax k | .stSpawn _ k | .stSpawnRel k => k.awaited
  | .rqCs _ k | .rqNotifyAcq _ _ _ k | .rqNotify _ _ _ k | .rqNotifyRel _ _ _ k | .rqPush _ k => k.awaited
  | .resumeSend _ k | .waking _ k | .openSend _ k | .wqCs _ k | .wtCs _ _ k | .wtUnpark _ k | .lwCs _ k | .dwCs _ k => k.awaited
  | .rjDequeue _ k | .rjPending _ _ k | .rjParkCheck _ _ k | .rjPark _ _ k | .rjParked _ _ k => k.awaited
  | .jobStart _ c k | .jobAwait _ c k | .jobBodyDone _ c k | .jobEnd _ c k | .jobSignal _ c k
  | .jobSigDrop _ c k | .jobDrop _ c k | .jobDropNotify _ c k | .suspSignal _ c k | .suspSigDrop _ c k =>
      (match c with | .caller _ => k.awaited | _ => none)
  | .pfPollRel _ next => next.awaited
  | .dqWakeWith _ _ _ k => k.awaited
  | .fdDrop _ k => k.awaited
  | _ => none

/-- the call has not created its erased job yet -/
def Pc.fresh : Pc → Bool
  | .syDecide _ _ | .sdPush _ _ | .sbReg _ _ | .sbPush _ _ | .fsTake _ | .fsTake2 _ => true
  | .begin _ k | .body _ k | .unwinding k => k.fresh
  | .stReap k | .stScanLock k | .stScan _ k | .stScanHeld _ k | .stScanRel _ _ k
  | .stScanUnlock _ k | .stReadMax k | .stSpawn _ k | .stSpawnRel k => k.fresh
  | .rqCs _ k | .rqNotifyAcq _ _ _ k | .rqNotify _ _ _ k | .rqNotifyRel _ _ _ k | .rqPush _ k => k.fresh
  | .resumeSend _ k | .waking _ k | .openSend _ k | .wqCs _ k | .wtCs _ _ k | .wtUnpark _ k | .lwCs _ k | .dwCs _ k => k.fresh
  | .rjDequeue _ k | .rjPending _ _ k | .rjParkCheck _ _ k | .rjPark _ _ k | .rjParked _ _ k => k.fresh
  | .jobStart _ c k | .jobAwait _ c k | .jobBodyDone _ c k | .jobEnd _ c k | .jobSignal _ c k
  | .jobSigDrop _ c k | .jobDrop _ c k | .jobDropNotify _ c k | .suspSignal _ c k | .suspSigDrop _ c k =>
      (match c with | .caller _ => k.fresh | _ => false)
  | .pfPollRel _ next => next.fresh
  | .dqWakeWith _ _ _ k => k.fresh
  | .fdDrop _ k => k.fresh
  | _ => false

@[simp] theorem awaited_ctxReady (k : Pc) (c : Ctx) : (ctxReady k c).awaited = (match c with | .caller _ => k.awaited | _ => none) := by
  cases c <;> rfl
@[simp] theorem awaited_ctxPending (j : Nat) (k : Pc) (c : Ctx) : (ctxPending j k c).awaited = (match c with | .caller _ => k.awaited | _ => none) := by
  cases c <;> rfl
@[simp] theorem fresh_ctxReady (k : Pc) (c : Ctx) : (ctxReady k c).fresh = (match c with | .caller _ => k.fresh | _ => false) := by
  cases c <;> rfl
@[simp] theorem fresh_ctxPending (j : Nat) (k : Pc) (c : Ctx) : (ctxPending j k c).fresh = (match c with | .caller _ => k.fresh | _ => false) := by
  cases c <;> rfl

@[simp] theorem jobK_setFut (s : State) (f : Nat) (v : Fut) (i : Nat) : (s.setFut f v).jobK i = s.jobK i := rfl
@[simp] theorem jobK_setGate (s : State) (g : Nat) (v : Gate) (i : Nat) : (s.setGate g v).jobK i = s.jobK i := rfl
@[simp] theorem jobK_setSf (s : State) (u : Nat) (v : SyncFut) (i : Nat) : (s.setSf u v).jobK i = s.jobK i := rfl
@[simp] theorem jobK_setPThr (s : State) (p : Nat) (v : PThr) (i : Nat) : (s.setPThr p v).jobK i = s.jobK i := rfl
@[simp] theorem jobK_setHolder (s : State) (q : Nat) (h : Option Nat) (i : Nat) : (s.setHolder q h).jobK i = s.jobK i := rfl
@[simp] theorem jobK_takeReady (s : State) (w a : Nat) (i : Nat) : (s.takeReady w a).jobK i = s.jobK i := rfl
@[simp] theorem jobK_dropReady (s : State) (w : Nat) (i : Nat) : (s.dropReady w).jobK i = s.jobK i := rfl
@[simp] theorem jobD_setFut (s : State) (f : Nat) (v : Fut) (i : Nat) : (s.setFut f v).jobD i = s.jobD i := rfl
@[simp] theorem jobD_setGate (s : State) (g : Nat) (v : Gate) (i : Nat) : (s.setGate g v).jobD i = s.jobD i := rfl
@[simp] theorem jobD_setSf (s : State) (u : Nat) (v : SyncFut) (i : Nat) : (s.setSf u v).jobD i = s.jobD i := rfl
@[simp] theorem jobD_setPThr (s : State) (p : Nat) (v : PThr) (i : Nat) : (s.setPThr p v).jobD i = s.jobD i := rfl
@[simp] theorem jobD_setHolder (s : State) (q : Nat) (h : Option Nat) (i : Nat) : (s.setHolder q h).jobD i = s.jobD i := rfl
@[simp] theorem jobD_takeReady (s : State) (w a : Nat) (i : Nat) : (s.takeReady w a).jobD i = s.jobD i := rfl
@[simp] theorem jobD_dropReady (s : State) (w : Nat) (i : Nat) : (s.dropReady w).jobD i = s.jobD i := rfl
@[simp] theorem isReady_setQ (s : State) (q : Nat) (v : JobQ) (i : Nat) : (s.setQ q v).isReady i = s.isReady i := rfl
@[simp] theorem isReady_setFut (s : State) (f : Nat) (v : Fut) (i : Nat) : (s.setFut f v).isReady i = s.isReady i := rfl
@[simp] theorem isReady_setGate (s : State) (g : Nat) (v : Gate) (i : Nat) : (s.setGate g v).isReady i = s.isReady i := rfl
@[simp] theorem isReady_setAct (s : State) (a : Nat) (v : Act) (i : Nat) : (s.setAct a v).isReady i = s.isReady i := rfl
@[simp] theorem isReady_setSf (s : State) (u : Nat) (v : SyncFut) (i : Nat) : (s.setSf u v).isReady i = s.isReady i := rfl
@[simp] theorem isReady_setPThr (s : State) (p : Nat) (v : PThr) (i : Nat) : (s.setPThr p v).isReady i = s.isReady i := rfl
@[simp] theorem isReady_setHolder (s : State) (q : Nat) (h : Option Nat) (i : Nat) : (s.setHolder q h).isReady i = s.isReady i := rfl
@[simp] theorem isReady_takeReady (s : State) (w a : Nat) (i : Nat) : (s.takeReady w a).isReady i = s.isReady i := rfl
@[simp] theorem isReady_dropReady (s : State) (w : Nat) (i : Nat) : (s.dropReady w).isReady i = s.isReady i := rfl
@[simp] theorem isReady_setJob (s : State) (j : Nat) (v : Job) (i : Nat) : (s.setJob j v).isReady i = s.isReady i := rfl
@[simp] theorem isReady_goto (s : State) (a : Nat) (pc : Pc) (i : Nat) : (s.goto a pc).isReady i = s.isReady i := by unfold State.goto; split <;> rfl
@[simp] theorem isReady_setWoken (s : State) (a : Nat) (b : Bool) (i : Nat) : (s.setWoken a b).isReady i = s.isReady i := by unfold State.setWoken; split <;> rfl
@[simp] theorem isReady_notify (s : State) (w : Nat) (i : Nat) : (s.notify w).isReady i = s.isReady i := by unfold State.notify; split <;> (try split) <;> rfl
@[simp] theorem isReady_setQState (s : State) (q : Nat) (st : QState) (i : Nat) : (s.setQState q st).isReady i = s.isReady i := by unfold State.setQState; split <;> rfl
@[simp] theorem isReady_pushBack (s : State) (q j : Nat) (i : Nat) : (s.pushBack q j).isReady i = s.isReady i := by unfold State.pushBack; split <;> rfl
@[simp] theorem isReady_pushFront (s : State) (q j : Nat) (i : Nat) : (s.pushFront q j).isReady i = s.isReady i := by unfold State.pushFront; split <;> rfl
@[simp] theorem isReady_setJobPh (s : State) (j : Nat) (ph : Phase) (i : Nat) : (s.setJobPh j ph).isReady i = s.isReady i := by unfold State.setJobPh; split <;> rfl

/-- from `s` to `s'` no activity is removed, none changes what it waits for, none becomes fresh again -/
structure CallsKept (s s' : State) : Prop where
  len : s.acts.length ≤ s'.acts.length
  awaited : ∀ b, (s'.pcAt b).awaited = (s.pcAt b).awaited
  fresh : ∀ b, (s'.pcAt b).fresh = true → (s.pcAt b).fresh = true

abbrev ErasedInv (s : State) : Prop :=
  ErasedInvF s.jobK s.jobD (fun a => (s.pcAt a).awaited) (fun a => (s.pcAt a).fresh) s.isReady s.acts.length

theorem erasedInv_initP (ps : List Bool) (ng max : Nat) : ErasedInv (initStateP ps ng max) := by
  -- every clause starts from an erased job or a ready flag that is set: there is no job and no flag
  refine ⟨?_, ?_, ?_, ?_, ?_, ?_, ?_, ?_⟩ <;> intros <;> simp_all [initStateP, initState, State.jobK, State.isReady]

theorem ErasedInv.frame {s s' : State} (h : ErasedInv s) (hC : CallsKept s s')
    (hK : ∀ i, s'.jobK i = s.jobK i) (hD : ∀ i, s.jobD i = true → s'.jobD i = true) (hr : s'.ready = s.ready) : ErasedInv s' :=
  (ErasedInvF.frame h hC.len hD (fun b _ => hC.awaited b) (fun b _ => hC.fresh b)).congr hK (fun _ => rfl) (fun _ => rfl) (fun _ => rfl) (isReady_congr hr) rfl

theorem ErasedInv.same {s s' : State} (h : ErasedInv s) (hC : CallsKept s s') (hJ : s'.jobs = s.jobs) (hr : s'.ready = s.ready) : ErasedInv s' :=
  h.frame hC (jobK_congr hJ) (fun i hi => (jobD_congr hJ i).trans hi) hr

theorem ErasedInv.setJob {s s' : State} {j : Nat} {jb v : Job} (h : ErasedInv s) (hC : CallsKept s s')
    (hjb : s.jobs[j]? = some jb) (hJ : s'.jobs = s.jobs.set j v) (hk : v.kind = jb.kind)
    (hd : jb.ph = .done → v.ph = .done) (hr : s'.ready = s.ready) : ErasedInv s' := by
  refine h.frame hC (upd_same (jobK_of_set hjb hJ) (by rw [jobK_of hjb, kOf, kOf, hk])) (fun i hi => ?_) hr
  rw [jobD_of_set hjb hJ]
  split
  · next e =>
    rw [e, jobD_of hjb] at hi
    rw [hd (by simpa using hi)]; rfl
  · exact hi

theorem ErasedInv.exit {s s' : State} {a : Nat} (h : ErasedInv s) (hN : s.acts.length ≤ s'.acts.length)
    (hall : ∀ j bg, s.jobK j = some (a, bg) → s.jobD j = true)
    (hA : ∀ b, b ≠ a → (s'.pcAt b).awaited = (s.pcAt b).awaited) (hF : ∀ b, (s'.pcAt b).fresh = true → (s.pcAt b).fresh = true)
    (hJ : s'.jobs = s.jobs) (hr : s'.ready = s.ready) : ErasedInv s' :=
  ((ErasedInvF.exit h hall hA).frame hN (fun _ => id) (fun _ _ => rfl) (fun b _ => hF b)).congr (jobK_congr hJ) (jobD_congr hJ) (fun _ => rfl)
    (fun _ => rfl) (isReady_congr hr) rfl

theorem ErasedInv.push {s s' : State} {a q : Nat} {kind : JobKind} {bg : Bool} (h : ErasedInv s) (hlt : a < s.acts.length)
    (hN : s.acts.length ≤ s'.acts.length) (hfresh : (s.pcAt a).fresh = true)
    (hA : ∀ b, (s'.pcAt b).awaited = if b = a then some s.jobs.length else (s.pcAt b).awaited)
    (hF : ∀ b, (s'.pcAt b).fresh = if b = a then false else (s.pcAt b).fresh)
    (hJ : s'.jobs = (s.newJob q kind).1.jobs) (hk : kOf { q := q, kind := kind, ph := .queued, begun := false, ended := false, reg := none } = some (a, bg))
    (hr : s'.ready = s.ready) : ErasedInv s' := by
  rw [jobs_newJob] at hJ
  have hK : ∀ i, s'.jobK i = if i = s.jobs.length then some (a, bg) else s.jobK i := fun i => by rw [jobK_of_append hJ, hk]
  have hD : ∀ i, s'.jobD i = if i = s.jobs.length then false else s.jobD i := jobD_of_append hJ
  exact ((ErasedInvF.push h hfresh hlt (jobK_fresh s) hK hD hA hF).frame hN (fun _ => id) (fun _ _ => rfl) (fun _ _ => id)).congr
    (fun _ => rfl) (fun _ => rfl) (fun _ => rfl) (fun _ => rfl) (isReady_congr hr) rfl

theorem ErasedInv.dropBg {s s' : State} {j o : Nat} {jb : Job} {body : Body} (h : ErasedInv s) (hC : CallsKept s s')
    (hjb : s.jobs[j]? = some jb) (hkind : jb.kind = .erasedBg o body)
    (hJ : s'.jobs = s.jobs.set j { jb with ph := .done, ended := true }) (hr : s'.ready = o :: s.ready) : ErasedInv s' := by
  have hK : ∀ i, s'.jobK i = s.jobK i := upd_same (jobK_of_set hjb hJ) (by rw [jobK_of hjb]; rfl)
  have hD : ∀ i, s'.jobD i = if i = j then true else s.jobD i := jobD_of_set hjb hJ
  have hR : ∀ b, s'.isReady b = if b = o then true else s.isReady b := fun b => by
    by_cases e : b = o <;> simp [State.isReady, hr, e]
  exact ((ErasedInvF.dropBg h (by rw [jobK_of hjb, kOf, hkind]) hD hR).frame hC.len (fun _ => id)
    (fun b _ => hC.awaited b) (fun b _ => hC.fresh b)).congr hK (fun _ => rfl) (fun _ => rfl) (fun _ => rfl) (fun _ => rfl) rfl

theorem ErasedInv.setPh {s s' : State} {j : Nat} {jb : Job} {ph : Phase} (h : ErasedInv s) (hC : CallsKept s s')
    (hjb : s.jobs[j]? = some jb) (hnd : jb.ph ≠ .done) (hJ : s'.jobs = s.jobs.set j { jb with ph := ph }) (hr : s'.ready = s.ready) : ErasedInv s' :=
  h.setJob hC hjb hJ rfl (fun e => absurd e hnd) hr

/-- `dequeue`: the head of the queue, if there is one, goes from queued to held -/
theorem ErasedInv.dequeue {s s' : State} {q a : Nat} (hj : JobInv s) (h : ErasedInv s) (hC : CallsKept s s')
    (hJ : s'.jobs = (s.dequeue q a).1.jobs) (hr : s'.ready = (s.dequeue q a).1.ready) : ErasedInv s' := by
  cases hd : (s.dequeue q a).2 with
  | none => rw [dequeue_none hd] at hJ hr; exact h.same hC hJ hr
  | some j =>
    obtain ⟨v, rest, hv, hjobs, hX⟩ := dequeue_some hd
    obtain ⟨jb, hjb, hph, -⟩ := jobPQ_some (hj.queued q _ j (by rw [qjobs_of hv, hjobs]) (by simp))
    exact h.setPh hC hjb (by rw [hph]; simp) (by rw [hJ, hX]; exact jobs_setJobPh_of (s := s.setQ _ _) hjb _) (by rw [hr, hX]; simp)

theorem ErasedInv.append_plain {s s' : State} {nj : Job} (h : ErasedInv s) (hC : CallsKept s s')
    (hJ : s'.jobs = s.jobs ++ [nj]) (hne : kOf nj = none) (hr : s'.ready = s.ready) : ErasedInv s' := by
  refine h.frame hC (upd_same (jobK_of_append hJ) (by rw [hne, jobK_fresh])) (fun i hi => ?_) hr
  rw [jobD_of_append hJ]
  split
  · next e => rw [e, jobD_fresh] at hi; cases hi
  · exact hi

end Desync
