/-
The simulation: every internal step of the scheduler model is a step of the abstract pool (`PStep`), and every move of the
environment is a `PEnv`.  What the abstraction reads of a rule of `Step` is which activity went from which program counter to
which (`Moves`) and the five pool fields.  Every program counter stays well formed (`Pc.wf`: a pool step is only ever at the head
of a pc, never inside a continuation), which is what lets `PStep` classify a return to a continuation as a return to something
that is not a pool step.
-/
import DesyncModel.Inv.StepFacts
import DesyncModel.Inv.PoolAbs
import DesyncModel.Tables.Pool

namespace Desync
open Gen

def WfAll (s : State) : Prop := ∀ b, (s.pcAt b).wf = true

/-! ### the setters that `Setters.lean` does not cover, on the pool fields -/

attribute [simp] dequeue_acts

theorem poolIs_goto (X : State) (a : Nat) (pc : Pc) : PoolIs (X.goto a pc) X.pthreads X.threadsVec X.threadsLock X.schedule X.maxThreads :=
  ⟨pthreads_goto _ _ _, threadsVec_goto _ _ _, threadsLock_goto _ _ _, schedule_goto _ _ _, maxThreads_goto _ _ _⟩

/-- activity `a` goes from `pc` to `pc'` and no other activity moves -/
structure Moves (s : State) (a : Nat) (pc pc' : Pc) (X : State) : Prop where
  src : s.pcAt a = pc
  dst : X.pcAt a = pc'
  oth : ∀ b, b ≠ a → X.pcAt b = s.pcAt b

/-- `goto` after updates that keep every program counter (they may have written another activity's `woken` flag) -/
theorem Moves.goto_of_pcs {s X : State} {a : Nat} {act : Act} {pc pc' : Pc} (ha : s.acts[a]? = some act) (hpc : act.pc = pc)
    (hlen : X.acts.length = s.acts.length) (hX : ∀ b, X.pcAt b = s.pcAt b) : Moves s a pc pc' (X.goto a pc') :=
  ⟨(pcAt_of ha).trans hpc, pcAt_goto_self _ (hlen ▸ lt_of_getElem?_some ha), fun b hb => (pcAt_goto_ne _ hb).trans (hX b)⟩

theorem Moves.goto {s X : State} {a : Nat} {act : Act} {pc pc' : Pc} (ha : s.acts[a]? = some act) (hpc : act.pc = pc)
    (hacts : X.acts = s.acts) : Moves s a pc pc' (X.goto a pc') :=
  .goto_of_pcs ha hpc (by rw [hacts]) (pcAt_congr hacts)

theorem Moves.setAct {s X : State} {a : Nat} {act v : Act} {pc : Pc} (ha : s.acts[a]? = some act) (hpc : act.pc = pc)
    (hacts : X.acts = s.acts) : Moves s a pc v.pc (X.setAct a v) :=
  ⟨(pcAt_of ha).trans hpc, pcAt_setAct_self _ (hacts ▸ lt_of_getElem?_some ha), fun b hb => (pcAt_setAct_ne _ hb).trans (pcAt_congr hacts b)⟩

theorem Moves.of_pcs {s Y X : State} {a : Nat} {pc pc' : Pc} (m : Moves s a pc pc' Y) (hX : ∀ b, X.pcAt b = Y.pcAt b) : Moves s a pc pc' X :=
  ⟨m.src, (hX a).trans m.dst, fun b hb => (hX b).trans (m.oth b hb)⟩

theorem Moves.cl {s X : State} {a : Nat} {pc pc' : Pc} (m : Moves s a pc pc' X) : s.cl a = pc.cls := congrArg Pc.cls m.src
theorem Moves.cl' {s X : State} {a : Nat} {pc pc' : Pc} (m : Moves s a pc pc' X) : X.cl a = pc'.cls := congrArg Pc.cls m.dst
theorem Moves.po {s X : State} {a : Nat} {pc pc' : Pc} (m : Moves s a pc pc' X) : s.po a = pc.poolOf := congrArg Pc.poolOf m.src
theorem Moves.po' {s X : State} {a : Nat} {pc pc' : Pc} (m : Moves s a pc pc' X) : X.po a = pc'.poolOf := congrArg Pc.poolOf m.dst

theorem Moves.base {s X : State} {a : Nat} {pc pc' : Pc} (m : Moves s a pc pc' X) (hpo : pc'.poolOf = pc.poolOf) : Base s a X :=
  ⟨m.oth, m.po'.trans (hpo.trans m.po.symm)⟩

theorem Moves.pstep {s X : State} {a : Nat} {pc pc' : Pc} (m : Moves s a pc pc' X) (hX : PoolSame s X)
    (hcl : pc'.cls = pc.cls) (hpo : pc'.poolOf = pc.poolOf) : PStep s a X :=
  .neutral (m.base hpo) (m.cl'.trans (hcl.trans m.cl.symm)) hX

theorem WfAll.of_eq {s X : State} (h : WfAll s) (hX : ∀ b, X.pcAt b = s.pcAt b) : WfAll X := fun b => by rw [hX]; exact h b

@[simp] theorem wf_ctxReady (k : Pc) (c : Ctx) : (ctxReady k c).wf = (match c with | .caller _ => k.wf | _ => true) := by
  cases c <;> rfl
@[simp] theorem wf_ctxPending (j : Nat) (k : Pc) (c : Ctx) : (ctxPending j k c).wf = (match c with | .caller _ => k.quiet | _ => true) := by
  cases c <;> rfl

/-- No step moves an activity other than its own (a spawn starts a pool thread, at the head of its loop), and the mover's new
program counter is read off the rule's post-state.  For most rules its well-formedness is, by computation, that of the old one;
the rules that return to a continuation `k`, or hand control back to the context of a job, had `k.quiet`, and a quiet program
counter is well formed. -/
theorem Step.wfAll {s s' : State} {a : Nat} {act : Act} (h : WfAll s) (ha : s.acts[a]? = some act) (hst : Step s a act s') : WfAll s' := by
  have hlt := hst.lt_acts ha
  have hoth := fun b (hb : b ≠ a) => hst.pcAt_ne hb
  suffices (s'.pcAt a).wf = true by
    intro b
    by_cases hb : b = a
    · rw [hb]; exact this
    · rcases hoth b hb with e | ⟨-, p, e⟩ <;> rw [e]
      · exact h b
      · rfl
  have hw : ∀ {pc : Pc}, act.pc = pc → pc.wf = true := fun hpc => hpc ▸ pcAt_of ha ▸ h a
  cases hst
  case beginFree hpc | beginTake hpc _ | stScanUnlock hpc | stSpawnFull hpc _ _ | rqNotifiedDone hpc | wakingDone hpc | openSendDone hpc _ _
      | wqCs hpc _ _ | wtUnpark hpc | lwCsEmpty hpc _ _ | lwCsKeep hpc _ _ | dwCsEmpty hpc _ | rjDequeueNone hpc _ | pfPollRel hpc _ _
      | fdDropKeep hpc _ _ _ _ | fdDrop hpc _ _ _ | resumeSend hpc _ _ _ _ _ | dqWakeWith hpc _ _ =>
    rw [pcAt_goto_of_lt hlt]; exact quiet_wf _ (hw hpc)
  case jobAwaitPendingSlot hpc _ _ _ _ | jobAwaitPending hpc _ _ _ =>
    rw [pcAt_goto_of_lt hlt]; exact quiet_wf _ ((quiet_ctxPending _ _ _).trans (hw hpc))
  case jobDrop hpc _ _ | jobDropNotify hpc _ _ => rw [pcAt_goto_of_lt hlt]; exact quiet_wf _ ((quiet_ctxReady _ _).trans (hw hpc))
  case tsBusy hpc _ _ | pfPollReady hpc _ _ | pollReadySfSched hpc _ _ | pollPendingOnce hpc _ _ | sfPollQueue hpc _ _ | sfPollSched hpc _ _
      | sfPollCompleted hpc _ _ | sfBlockedOnce hpc _ | dqCheckReady hpc _ _ | dqCheck2Ready hpc _ _ | fsTakeReady hpc _ _ =>
    rw [pcAt_setAct_of_lt hlt]; exact (hw hpc :)
  case sbPrune hpc _ => rw [pcAt_setQ, pcAt_goto_of_lt (by simpa using hlt)]; exact (hw hpc :)
  all_goals rw [pcAt_goto_of_lt hlt]; exact (hw ‹_› :)

theorem cl_of {s : State} {a : Nat} {act : Act} {pc : Pc} (ha : s.acts[a]? = some act) (hpc : act.pc = pc) : s.cl a = pc.cls :=
  congrArg Pc.cls ((pcAt_of ha).trans hpc)

theorem po_of {s : State} {a : Nat} {act : Act} {pc : Pc} (ha : s.acts[a]? = some act) (hpc : act.pc = pc) : s.po a = pc.poolOf :=
  congrArg Pc.poolOf ((pcAt_of ha).trans hpc)

/-- Each rule that reads or writes a pool field is the `PStep` named after it; every other rule leaves the five fields alone and
takes its activity to a program counter of the same class (`Moves.pstep`). -/
theorem Step.pstep {s s' : State} {a : Nat} {act : Act} (hw : act.pc.wf = true) (ha : s.acts[a]? = some act)
    (hst : Step s a act s') : PStep s a s' := by
  have mv : ∀ {X : State} {pc pc' : Pc}, act.pc = pc → X.acts = s.acts → Moves s a pc pc' (X.goto a pc') := Moves.goto ha
  have base : ∀ {X : State} {pc pc' : Pc}, act.pc = pc → X.acts = s.acts → pc'.poolOf = pc.poolOf → Base s a (X.goto a pc') :=
    fun hpc hacts hpo => (mv hpc hacts).base hpo
  have cl' : ∀ {X : State} {pc' : Pc}, X.acts = s.acts → (X.goto a pc').cl a = pc'.cls := fun hacts => (mv rfl hacts).cl'
  have plain' : ∀ {X : State} {k : Pc}, X.acts = s.acts → k.quiet = true → ((X.goto a k).cl a).plain = true :=
    fun hacts hq => cl' hacts ▸ quiet_plain _ hq
  have hw' : ∀ {pc : Pc}, act.pc = pc → pc.wf = true := fun hpc => hpc ▸ hw
  have hoth := fun b (hb : b ≠ a) => hst.pcAt_ne hb
  cases hst
  -- schedule_thread
  case stReap k hpc hl =>
    exact .reap (base hpc rfl rfl) (cl_of ha hpc) hl _ List.filter_sublist (poolIs_goto _ _ _) (cl' rfl)
  case stScanLock k hpc hl => exact .scanLock (base hpc rfl rfl) (cl_of ha hpc) hl (poolIs_goto _ _ _) (cl' rfl)
  case stScanEnd i k hpc hv => exact .scanEnd i (base hpc rfl rfl) (cl_of ha hpc) hv (poolIs_goto _ _ _) (cl' rfl)
  -- a held busy flag is not taken for "busy": the scan waits for it (`dormantScanBlocks`), so the rule that would pass it never fires
  case stScanSkip hd => rw [dormant_scan_blocks] at hd; cases hd
  case stScanTake i k p pt hpc hv hp hl =>
    exact .scanAcq i p pt (base hpc rfl rfl) (cl_of ha hpc) hv hp hl (poolIs_goto _ _ _) (cl' rfl)
  case stScanHeldBusy i k p pt hpc hv hp hb =>
    exact .scanBusy i p pt (base hpc rfl rfl) (cl_of ha hpc) hv hp hb (poolIs_goto _ _ _) (cl' rfl)
  case stScanHeldIdle i k p pt hpc hv hp hb =>
    exact .scanSend i p pt (base hpc rfl rfl) (cl_of ha hpc) hv hp hb (poolIs_goto _ _ _) (cl' rfl)
  case stScanRel i f k p pt hpc hv hp =>
    exact .scanRel i p f pt (base hpc rfl rfl) (cl_of ha hpc) hv hp (poolIs_goto _ _ _) (cl' rfl)
  case stScanUnlock f k hpc =>
    exact .scanUnlock f (base hpc rfl rfl) (cl_of ha hpc) (poolIs_goto _ _ _) (plain' rfl (hw' hpc))
  case stReadMax k hpc => exact .readMax (base hpc rfl rfl) (cl_of ha hpc) (poolIs_goto _ _ _) (cl' rfl)
  case stSpawn m k hpc hl hsp =>
    have hlt := lt_of_getElem?_some ha
    refine .spawnYes m (cl_of ha hpc) hl ((spawn_only_below_max _ _).mp hsp) (fun b hb hbl => (hoth b hb).resolve_right (fun h => hbl h.1)) ?_ ?_
      hlt (poolIs_goto _ _ _) ?_
    · rw [pcAt_goto_ne _ (Nat.ne_of_gt hlt)]; simp [State.pcAt, poolAct]
    · simp only [State.po]; rw [pcAt_goto_self _ (by simp; omega), pcAt_of ha, hpc]; rfl
    · simp only [State.cl]; rw [pcAt_goto_self _ (by simp; omega)]; rfl
  case stSpawnFull m k hpc hl hsp =>
    have hge : m ≤ s.threadsVec.length := Nat.le_of_not_lt fun h => by rw [(spawn_only_below_max _ _).mpr h] at hsp; cases hsp
    exact .spawnNo m (base hpc rfl rfl) (cl_of ha hpc) hge (by simp [PoolSame, PoolIs]) (plain' rfl (hw' hpc))
  case stSpawnRel k hpc => exact .spawnRel (base hpc rfl rfl) (cl_of ha hpc) (poolIs_goto _ _ _) (cl' rfl)
  -- the schedule
  case rqPush q k hpc hl =>
    exact .push q (base hpc rfl rfl) (cl_of ha hpc ▸ quiet_plain k (hw' hpc)) (poolIs_goto _ _ _) (cl' rfl)
  case dsSched q hpc hl => exact .push q (base hpc rfl rfl) (cl_of ha hpc ▸ rfl) (poolIs_goto _ _ _) (cl' rfl)
  case sbClaimed q j v hpc hl hv hcl =>
    exact .claim (· != q) (base hpc rfl rfl) ((cl' (by rfl)).trans (cl_of ha hpc).symm) (poolIs_goto _ _ _)
  -- the pool thread loop
  case ptRecv p hpc => exact .ptRecv p (base hpc rfl rfl) (cl_of ha hpc) (poolIs_goto _ _ _) (cl' rfl)
  case ptRecvd p pt hpc hp hm =>
    exact .ptGot p pt (base hpc rfl rfl) (cl_of ha hpc) (po_of ha hpc) hp hm (poolIs_goto _ _ _) (cl' rfl)
  case ptRecvdHungUp p pt hpc hp hm hh =>
    exact .ptExit p pt (Moves.oth (mv hpc rfl)) (cl_of ha hpc) (po_of ha hpc) hp (Nat.eq_zero_of_not_pos hm) hh (poolIs_goto _ _ _) (cl' rfl) (Moves.po' (mv hpc (by rfl)))
  case ptLockBusy p pt hpc hp hl =>
    exact .ptLockBusy p pt (base hpc rfl rfl) (cl_of ha hpc) hp hl (poolIs_goto _ _ _) (cl' rfl)
  case ptLockSched p hpc hl => exact .ptLockSched p (base hpc rfl rfl) (cl_of ha hpc) (poolIs_goto _ _ _) (cl' rfl)
  case ptPopEmpty p hpc he => exact .popEmpty p (base hpc rfl rfl) (cl_of ha hpc) he (poolIs_goto _ _ _) (cl' rfl)
  case ptPopTake p q rest v hpc he hv hn =>
    exact .popTake p q rest (base hpc rfl rfl) (cl_of ha hpc) he (poolIs_goto _ _ _) (cl' rfl)
  case ptPopSkip p q rest v hpc he hv hn =>
    exact .popSkip p q rest (base hpc rfl rfl) (cl_of ha hpc) he (poolIs_goto _ _ _) (cl' rfl)
  case ptUnlockSched p got hpc =>
    exact .unlockSched p got (base hpc rfl rfl) (cl_of ha hpc) (poolIs_goto _ _ _) (cl' rfl)
  case ptUnlockBusyGot p q pt hpc hp =>
    exact .unlockBusySome p q pt (base hpc rfl rfl) (cl_of ha hpc) hp (poolIs_goto _ _ _) (cl' rfl)
  case ptUnlockBusyNone p pt hpc hp =>
    exact .unlockBusyNone p pt (base hpc rfl rfl) (cl_of ha hpc) (po_of ha hpc) hp (poolIs_goto _ _ _) (cl' rfl)
  case pdPendingLeave p q v hpc hv hd | pdExitLeave p q v hpc hv hd =>
    exact .drainEnd p (base hpc rfl rfl) (cl_of ha hpc) (poolIs_goto _ _ _) (cl' rfl)
  -- set_max_threads / despawn_threads_if_overloaded
  case smSet n hpc => exact .smSet n (base hpc rfl rfl) (cl_of ha hpc) (poolIs_goto _ _ _) (plain' rfl rfl)
  case dpRead hpc => exact .dpRead (base hpc rfl rfl) (cl_of ha hpc ▸ rfl) (poolIs_goto _ _ _) (cl' rfl)
  case dpLock m hpc hl => exact .dpLock m (base hpc rfl rfl) (cl_of ha hpc) hl (poolIs_goto _ _ _) (cl' rfl)
  case dpHang m gone p pt hpc hd hv hp =>
    exact .dpHangPop m p gone pt (base hpc rfl rfl) (cl_of ha hpc) hv hp (poolIs_goto _ _ _) (cl' rfl)
  case dpHangDone m gone hpc hd =>
    exact .dpHangEnd m gone (base hpc rfl rfl) (cl_of ha hpc) (poolIs_goto _ _ _) (plain' rfl rfl)
  -- the rules the pool does not see
  -- a job hands control back to its context
  case jobAwaitPendingSlot hpc _ _ _ _ | jobAwaitPending hpc _ _ _ =>
    exact (mv hpc (by simp)).pstep (by simp [PoolSame, PoolIs]) (cls_ctxPending _ _ _) (poolOf_ctxPending _ _ _)
  case jobDrop hpc _ _ => exact (mv hpc (by simp)).pstep (by simp [PoolSame, PoolIs]) (cls_ctxReady _ _) (poolOf_ctxReady _ _)
  case jobDropNotify hpc _ _ =>
    exact (Moves.goto_of_pcs ha hpc (by simp) (fun b => by simp)).pstep (by simp [PoolSame, PoolIs]) (cls_ctxReady _ _) (poolOf_ctxReady _ _)
  -- another activity's `woken` flag is written
  case rqNotify hpc | sbWait hpc | sbWaiting hpc _ _ =>
    exact (Moves.goto_of_pcs ha hpc (by simp) (fun b => by simp)).pstep (by simp [PoolSame, PoolIs]) rfl rfl
  -- the result is stored with the new program counter
  case tsBusy hpc _ _ | pfPollReady hpc _ _ | pollReadySfSched hpc _ _ | pollPendingOnce hpc _ _ | sfPollQueue hpc _ _ | sfPollSched hpc _ _
      | sfPollCompleted hpc _ _ | sfBlockedOnce hpc _ | dqCheckReady hpc _ _ | dqCheck2Ready hpc _ _ | fsTakeReady hpc _ _ =>
    exact (Moves.setAct ha hpc (by simp)).pstep (by simp [PoolSame, PoolIs]) rfl rfl
  case sbPrune hpc _ => exact ((mv hpc rfl).of_pcs (fun b => pcAt_setQ _ _ _ b)).pstep (by simp [PoolSame, PoolIs]) rfl rfl
  all_goals exact Moves.pstep (mv ‹_› (by simp)) (by simp [PoolSame, PoolIs]) (by rfl) (by rfl)

theorem pstep_of_stepAct {s s' : State} {a : Nat} {o : Obs} (hw : (s.pcAt a).wf = true)
    (hs : stepAct s a = some (s', o)) : PStep s a s' := by
  obtain ⟨act, ha, -, hst⟩ := Step.of_stepAct hs
  exact hst.pstep (pcAt_of ha ▸ hw) ha

theorem EnvStep.penv {P : Nat → Prop} {s s' : State} {l : Label} (hok : ∀ t p n, l = .invoke t p (.setMax n) → P n)
    (he : EnvStep s l s') : PEnv P s s' := by
  have hc := he.sameCore
  refine ⟨⟨hc.pthreads, hc.threadsVec, hc.threadsLock, hc.schedule, hc.maxThreads⟩, fun b => ?_⟩
  refine he.pcAt_rel_ok (ok := fun c => ∀ n, c = .setMax n → P n) (R := EnvMove P) (fun _ => ⟨rfl, id, .inl rfl⟩)
    (fun _ k => ⟨rfl, quiet_wf k, .inl rfl⟩) (fun _ _ _ => ⟨rfl, id, .inl rfl⟩) (fun _ => ⟨rfl, id, .inl rfl⟩) (fun _ => ⟨rfl, id, .inl rfl⟩)
    ⟨rfl, id, .inl rfl⟩ ?_ (fun t p c e n ec => hok t p n (ec ▸ e)) b
  intro s c s0 pc once hst hc
  cases hst
  case setMax n => exact ⟨rfl, id, .inr ⟨rfl, n, hc n rfl, rfl⟩⟩
  all_goals exact ⟨rfl, id, .inl rfl⟩

end Desync
