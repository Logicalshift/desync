/-
The lifetime-erased jobs of `sync` (C14), over abstract projections.
-/
import DesyncModel.Lemmas
import DesyncModel.State
namespace Desync
open Gen

/-- `K j`  = owner (the activity of the `sync` call) and kind (`true` = sync_background) of job `j` if it is lifetime-erased;
`D j`  = job `j` is done (its box has been dropped);
`A a`  = the erased job the call `a` is waiting for (its program counter is inside the wait loop of sync_drain / sync_background);
`F a`  = the call `a` has not created its erased job yet;   `Rd a` = the `ready` flag of call `a` is set;   `NA` = number of activities. -/
structure ErasedInvF (K : Nat → Option (Nat × Bool)) (D : Nat → Bool) (A : Nat → Option Nat) (F Rd : Nat → Bool) (NA : Nat) : Prop where
  /-- an erased job that is not done is being waited for by its owner, inside the call that created it -/
  waits : ∀ j o bg, K j = some (o, bg) → D j = false → A o = some j
  /-- the ready flag of a sync_background call is set only when its erased job is done -/
  readyDone : ∀ j o, K j = some (o, true) → Rd o = true → D j = true
  /-- a call that has not created its erased job yet has its `ready` flag down -/
  readyNotFresh : ∀ a, Rd a = true → F a = false
  /-- the owner of an erased job is past the point where its call creates one, so it will not create a second -/
  ownerNotFresh : ∀ j o bg, K j = some (o, bg) → F o = false
  /-- the owner of an erased job is an activity that exists, so a call that starts later never finds a job under its name -/
  ownerExists : ∀ j o bg, K j = some (o, bg) → o < NA
  /-- a `ready` flag is set only for an activity that exists, so a call that starts later finds its flag down -/
  readyExists : ∀ a, Rd a = true → a < NA
  /-- a call creates at most one erased job -/
  unique : ∀ j1 j2 o b1 b2, K j1 = some (o, b1) → K j2 = some (o, b2) → j1 = j2
  /-- a `ready` flag is set only for a call that has created a `sync_background` job -/
  readyHasJob : ∀ a, Rd a = true → ∃ j, K j = some (a, true)

theorem ErasedInvF.congr {K K' D D' A A' F F' Rd Rd' NA NA'} (h : ErasedInvF K D A F Rd NA)
    (hK : ∀ i, K' i = K i) (hD : ∀ i, D' i = D i) (hA : ∀ i, A' i = A i) (hF : ∀ i, F' i = F i) (hR : ∀ i, Rd' i = Rd i) (hN : NA' = NA) :
    ErasedInvF K' D' A' F' Rd' NA' := by
  rw [funext hK, funext hD, funext hA, funext hF, funext hR, hN]; exact h

/-- activities may be created, and a new one may be fresh: `hA` and `hF` speak of those that exist -/
theorem ErasedInvF.frame {K D D' A A' F F' Rd NA NA'} (h : ErasedInvF K D A F Rd NA) (hN : NA ≤ NA')
    (hD : ∀ j, D j = true → D' j = true)
    (hA : ∀ b, b < NA → A' b = A b) (hF : ∀ b, b < NA → F' b = true → F b = true) : ErasedInvF K D' A' F' Rd NA' := by
  have hnf : ∀ b, b < NA → F b = false → F' b = false := by
    intro b hb hf
    cases hx : F' b with
    | false => rfl
    | true => rw [hF b hb hx] at hf; cases hf
  refine ⟨?_, ?_, ?_, ?_, ?_, ?_, h.unique, h.readyHasJob⟩
  · intro j o bg hk hd
    rw [hA o (h.ownerExists j o bg hk)]
    apply h.waits j o bg hk
    cases hx : D j with
    | false => rfl
    | true => rw [hD j hx] at hd; cases hd
  · intro j o hk hr; exact hD j (h.readyDone j o hk hr)
  · intro b hr; exact hnf b (h.readyExists b hr) (h.readyNotFresh b hr)
  · intro j o bg hk; exact hnf o (h.ownerExists j o bg hk) (h.ownerNotFresh j o bg hk)
  · intro j o bg hk; exact Nat.lt_of_lt_of_le (h.ownerExists j o bg hk) hN
  · intro b hr; exact Nat.lt_of_lt_of_le (h.readyExists b hr) hN

/-- the call `a`, still fresh, creates its erased job `n` -/
theorem ErasedInvF.push {K K' D D' A A' F F' Rd NA} {a n : Nat} {bg : Bool} (h : ErasedInvF K D A F Rd NA)
    (hfresh : F a = true) (hlt : a < NA) (hKn : K n = none)
    (hK : ∀ j, K' j = if j = n then some (a, bg) else K j)
    (hD : ∀ j, D' j = if j = n then false else D j)
    (hA : ∀ b, A' b = if b = a then some n else A b)
    (hF : ∀ b, F' b = if b = a then false else F b) : ErasedInvF K' D' A' F' Rd NA := by
  have hra : Rd a ≠ true := fun hx => by have := h.readyNotFresh a hx; rw [hfresh] at this; cases this
  -- `a` owns no erased job yet
  have hown : ∀ {j o bg'}, K j = some (o, bg') → o ≠ a := fun hk e => by
    have := h.ownerNotFresh _ _ _ hk; rw [e, hfresh] at this; cases this
  refine ⟨?_, ?_, ?_, ?_, ?_, h.readyExists, ?_, ?_⟩
  · intro j o bg' hk hd
    rcases upd_cases hK hk with ⟨rfl, e⟩ | ⟨hne, hk⟩
    · cases e; exact upd_self hA
    · rw [upd_ne hD hne] at hd; rw [upd_ne hA (hown hk)]; exact h.waits j o bg' hk hd
  · intro j o hk hr
    rcases upd_cases hK hk with ⟨-, e⟩ | ⟨hne, hk⟩
    · cases e; exact absurd hr hra
    · rw [upd_ne hD hne]; exact h.readyDone j o hk hr
  · intro b hr
    rw [hF]; split
    · rfl
    · exact h.readyNotFresh b hr
  · intro j o bg' hk
    rcases upd_cases hK hk with ⟨-, e⟩ | ⟨-, hk⟩
    · cases e; exact upd_self hF
    · rw [upd_ne hF (hown hk)]; exact h.ownerNotFresh j o bg' hk
  · intro j o bg' hk
    rcases upd_cases hK hk with ⟨-, e⟩ | ⟨-, hk⟩
    · cases e; exact hlt
    · exact h.ownerExists j o bg' hk
  · intro j1 j2 o b1 b2 h1 h2
    rcases upd_cases hK h1 with ⟨e1, e⟩ | ⟨-, h1⟩ <;> rcases upd_cases hK h2 with ⟨e2, e'⟩ | ⟨-, h2⟩
    · rw [e1, e2]
    · cases e; exact absurd rfl (hown h2)
    · cases e'; exact absurd rfl (hown h1)
    · exact h.unique j1 j2 o b1 b2 h1 h2
  · intro b hr
    obtain ⟨j, hj⟩ := h.readyHasJob b hr
    exact ⟨j, (upd_ne hK fun e => by rw [e, hKn] at hj; cases hj).trans hj⟩

/-- the box of the sync_background job `j0` of call `o0` is dropped: the job is done and the ready flag is set -/
theorem ErasedInvF.dropBg {K D D' A F Rd Rd' NA} {j0 o0 : Nat} (h : ErasedInvF K D A F Rd NA)
    (hk0 : K j0 = some (o0, true))
    (hD : ∀ j, D' j = if j = j0 then true else D j)
    (hR : ∀ b, Rd' b = if b = o0 then true else Rd b) : ErasedInvF K D' A F Rd' NA := by
  refine ⟨?_, ?_, ?_, h.ownerNotFresh, h.ownerExists, ?_, h.unique, ?_⟩
  · intro j o bg hk hd
    exact h.waits j o bg hk (upd_old hD hd nofun).2
  · intro j o hk hr
    by_cases hj : j = j0
    · rw [hj, upd_self hD]
    · rw [upd_ne hD hj]
      rcases upd_cases hR hr with ⟨rfl, -⟩ | ⟨-, hr⟩
      · exact absurd (h.unique j j0 o true true hk hk0) hj
      · exact h.readyDone j o hk hr
  · intro b hr
    rcases upd_cases hR hr with ⟨rfl, -⟩ | ⟨-, hr⟩
    · exact h.ownerNotFresh j0 b true hk0
    · exact h.readyNotFresh b hr
  · intro b hr
    rcases upd_cases hR hr with ⟨rfl, -⟩ | ⟨-, hr⟩
    · exact h.ownerExists j0 b true hk0
    · exact h.readyExists b hr
  · intro b hr
    rcases upd_cases hR hr with ⟨rfl, -⟩ | ⟨-, hr⟩
    · exact ⟨j0, hk0⟩
    · exact h.readyHasJob b hr

/-- the call `a` leaves its wait loop: every erased job it owns is done -/
theorem ErasedInvF.exit {K D A A' F Rd NA} {a : Nat} (h : ErasedInvF K D A F Rd NA)
    (hall : ∀ j bg, K j = some (a, bg) → D j = true)
    (hA : ∀ b, b ≠ a → A' b = A b) : ErasedInvF K D A' F Rd NA := by
  refine ⟨?_, h.readyDone, h.readyNotFresh, h.ownerNotFresh, h.ownerExists, h.readyExists, h.unique, h.readyHasJob⟩
  intro j o bg hk hd
  by_cases hoa : o = a
  · rw [hoa] at hk; have := hall j bg hk; rw [hd] at this; cases this
  · rw [hA o hoa]; exact h.waits j o bg hk hd

end Desync
