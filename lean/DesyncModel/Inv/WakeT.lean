/-
I_wake, "thread inside sync" context (C06, C04), where no returned future is polled (`ReachableNT`): a sync caller that runs a
queue itself and has parked because the operation at hand is suspended (`WaitingForUnpark`) has its own `WakeThread` waker still
registered with the awaited event, or a `WakeThread` wake-up for this queue and this thread on its way.  As in the pool context
the delicate window is between the poll and the state update: a wake-up that lands there finds the queue `Running`, makes it
`AwokenWhileRunning`, and `run_one_job_now` then polls again instead of parking.
-/
import DesyncModel.Inv.Wake

namespace Desync
open Gen

/-- a `WakeThread(q, t)` wake-up is on its way in this activity -/
def Pc.wakesT : Pc → Nat → Nat → Bool
  | .waking ws k, q, t => ws.contains (.thread q t) || k.wakesT q t
  | .wtCs q' t' k, q, t => (q' == q && t' == t) || k.wakesT q t
  | .begin _ k, q, t | .body _ k, q, t | .unwinding k, q, t => k.wakesT q t
  | .stReap k, q, t | .stScanLock k, q, t | .stScan _ k, q, t | .stScanHeld _ k, q, t | .stScanRel _ _ k, q, t
  | .stScanUnlock _ k, q, t | .stReadMax k, q, t | .stSpawn _ k, q, t | .stSpawnRel k, q, t => k.wakesT q t
  | .rqCs _ k, q, t | .rqNotifyAcq _ _ _ k, q, t | .rqNotify _ _ _ k, q, t | .rqNotifyRel _ _ _ k, q, t | .rqPush _ k, q, t => k.wakesT q t
  | .resumeSend _ k, q, t | .openSend _ k, q, t | .wqCs _ k, q, t | .wtUnpark _ k, q, t | .lwCs _ k, q, t | .dwCs _ k, q, t => k.wakesT q t
  | .rjDequeue _ k, q, t | .rjPending _ _ k, q, t | .rjParkCheck _ _ k, q, t | .rjPark _ _ k, q, t | .rjParked _ _ k, q, t => k.wakesT q t
  | .jobStart _ c k, q, t | .jobAwait _ c k, q, t | .jobBodyDone _ c k, q, t | .jobEnd _ c k, q, t | .jobSignal _ c k, q, t
  | .jobSigDrop _ c k, q, t | .jobDrop _ c k, q, t | .jobDropNotify _ c k, q, t | .suspSignal _ c k, q, t | .suspSigDrop _ c k, q, t =>
      (match c with | .caller _ => k.wakesT q t | _ => false)
  | .pfPollRel _ next, q, t => next.wakesT q t
  | .dqWakeWith _ _ _ k, q, t => k.wakesT q t
  | .fdDrop _ k, q, t => k.wakesT q t
  | _, _, _ => false

theorem wakesT_waking (ws : List Waker) (k : Pc) (q t : Nat) : (Pc.waking ws k).wakesT q t = (ws.contains (.thread q t) || k.wakesT q t) := rfl
theorem wakesT_wtCs (q' t' : Nat) (k : Pc) (q t : Nat) : (Pc.wtCs q' t' k).wakesT q t = ((q' == q && t' == t) || k.wakesT q t) := rfl

/-- the sync caller has polled job `j` of queue `q` (which registered its thread's waker) and is about to update the state -/
def Pc.polledT : Pc → Option (Nat × Nat)
  | .rjPending q j _ => some (q, j)
  | .begin _ k | .body _ k => k.polledT
  | .stReap k | .stScanLock k | .stScan _ k | .stScanHeld _ k | .stScanRel _ _ k
  | .stScanUnlock _ k | .stReadMax k | .stSpawn _ k | .stSpawnRel k => k.polledT
  | .rqCs _ k | .rqNotifyAcq _ _ _ k | .rqNotify _ _ _ k | .rqNotifyRel _ _ _ k | .rqPush _ k => k.polledT
  | .resumeSend _ k | .waking _ k | .openSend _ k | .wqCs _ k | .wtCs _ _ k | .wtUnpark _ k | .lwCs _ k | .dwCs _ k => k.polledT
  | .rjDequeue _ k | .rjParkCheck _ _ k | .rjPark _ _ k | .rjParked _ _ k => k.polledT
  | .jobStart _ c k | .jobAwait _ c k | .jobBodyDone _ c k | .jobEnd _ c k | .jobSignal _ c k
  | .jobSigDrop _ c k | .jobDrop _ c k | .jobDropNotify _ c k | .suspSignal _ c k | .suspSigDrop _ c k =>
      (match c with | .caller _ => k.polledT | _ => none)
  | .pfPollRel _ next => next.polledT
  | .dqWakeWith _ _ _ k => k.polledT
  | .fdDrop _ k => k.polledT
  | _ => none

/-- the sync caller is in the park loop for job `j` of queue `q` -/
def Pc.parkedJ : Pc → Option (Nat × Nat)
  | .rjParkCheck q j _ | .rjPark q j _ | .rjParked q j _ => some (q, j)
  | .begin _ k | .body _ k => k.parkedJ
  | .stReap k | .stScanLock k | .stScan _ k | .stScanHeld _ k | .stScanRel _ _ k
  | .stScanUnlock _ k | .stReadMax k | .stSpawn _ k | .stSpawnRel k => k.parkedJ
  | .rqCs _ k | .rqNotifyAcq _ _ _ k | .rqNotify _ _ _ k | .rqNotifyRel _ _ _ k | .rqPush _ k => k.parkedJ
  | .resumeSend _ k | .waking _ k | .openSend _ k | .wqCs _ k | .wtCs _ _ k | .wtUnpark _ k | .lwCs _ k | .dwCs _ k => k.parkedJ
  | .rjDequeue _ k | .rjPending _ _ k => k.parkedJ
  | .jobStart _ c k | .jobAwait _ c k | .jobBodyDone _ c k | .jobEnd _ c k | .jobSignal _ c k
  | .jobSigDrop _ c k | .jobDrop _ c k | .jobDropNotify _ c k | .suspSignal _ c k | .suspSigDrop _ c k =>
      (match c with | .caller _ => k.parkedJ | _ => none)
  | .pfPollRel _ next => next.parkedJ
  | .dqWakeWith _ _ _ k => k.parkedJ
  | .fdDrop _ k => k.parkedJ
  | _ => none

@[simp] theorem wakesT_ctxReady (k : Pc) (c : Ctx) (q t : Nat) : (ctxReady k c).wakesT q t = (match c with | .caller _ => k.wakesT q t | _ => false) := by
  cases c <;> rfl
@[simp] theorem wakesT_ctxPending (j : Nat) (k : Pc) (c : Ctx) (q t : Nat) : (ctxPending j k c).wakesT q t = (match c with | .caller _ => k.wakesT q t | _ => false) := by
  cases c <;> rfl
@[simp] theorem polledT_ctxReady (k : Pc) (c : Ctx) : (ctxReady k c).polledT = (match c with | .caller _ => k.polledT | _ => none) := by
  cases c <;> rfl
@[simp] theorem polledT_ctxPending (j : Nat) (k : Pc) (c : Ctx) :
    (ctxPending j k c).polledT = (match c with | .caller q => some (q, j) | _ => none) := by
  cases c <;> rfl
@[simp] theorem parkedJ_ctxReady (k : Pc) (c : Ctx) : (ctxReady k c).parkedJ = (match c with | .caller _ => k.parkedJ | _ => none) := by
  cases c <;> rfl
@[simp] theorem parkedJ_ctxPending (j : Nat) (k : Pc) (c : Ctx) : (ctxPending j k c).parkedJ = (match c with | .caller _ => k.parkedJ | _ => none) := by
  cases c <;> rfl

theorem plainFor_factsT {k : Pc} {q : Nat} (h : k.plainFor q = true) : k.polledT = none ∧ k.parkedJ = none := by
  rcases plainFor_cases h with ⟨j, rfl⟩ | ⟨j, rfl⟩ <;> exact ⟨rfl, rfl⟩

theorem polledT_facts (pc : Pc) (q j : Nat) (hc : pc.callerOk = true) (h : pc.polledT = some (q, j)) :
    pc.runningQ = some (j, q) ∧ pc.parks q = false := by
  induction pc
  case rjPending => cases h; exact ⟨rfl, rfl⟩
  -- `run_one_job_now` carries a plain continuation
  case rjDequeue | rjParkCheck | rjPark | rjParked => cases (plainFor_factsT hc).1.symm.trans h
  case jobStart c _ _ | jobAwait c _ _ | jobBodyDone c _ _ | jobEnd c _ _ | jobSignal c _ _ | jobSigDrop c _ _ | jobDrop c _ _
      | jobDropNotify c _ _ | suspSignal c _ _ | suspSigDrop c _ _ =>
    cases c
    case caller => cases (plainFor_factsT hc).1.symm.trans h
    all_goals cases h
  -- a program counter that only carries a continuation passes the claim on; every other one is in no window
  all_goals first | (rename_i ih; exact ⟨(ih hc h).1, rfl⟩) | cases h

theorem parkedJ_runningQ (pc : Pc) (q j : Nat) (hc : pc.callerOk = true) (h : pc.parkedJ = some (q, j)) : pc.runningQ = some (j, q) := by
  induction pc
  case rjParkCheck | rjPark | rjParked => cases h; rfl
  case rjDequeue | rjPending => cases (plainFor_factsT hc).2.symm.trans h
  case jobStart c _ _ | jobAwait c _ _ | jobBodyDone c _ _ | jobEnd c _ _ | jobSignal c _ _ | jobSigDrop c _ _ | jobDrop c _ _
      | jobDropNotify c _ _ | suspSignal c _ _ | suspSigDrop c _ _ =>
    cases c
    case caller => cases (plainFor_factsT hc).2.symm.trans h
    all_goals cases h
  all_goals first | exact ‹_ → _ → _› hc h | cases h

theorem parks_parkedJ {pc : Pc} {q : Nat} (h : pc.parks q = true) : ∃ j, pc.parkedJ = some (q, j) := by
  cases pc <;> first | cases h | (cases beq_iff_eq.mp h; exact ⟨_, rfl⟩)

/-- the thread waker of `(q, t)` is registered for job `j` -/
def RegT (s : State) (q j t : Nat) : Prop := s.regW j = some (.thread q t)

/-- a `WakeThread(q, t)` wake-up is on its way -/
def FlightT (s : State) (q t : Nat) : Prop := ∃ a, (s.pcAt a).wakesT q t = true

structure WakeTInv (s : State) : Prop where
  /-- a sync caller in the park loop of `run_one_job_now` whose queue is still `WaitingForUnpark` has its own thread's `WakeThread` waker
  registered with the event its job awaits, or a `WakeThread` wake-up for this queue and this thread is on its way -/
  parked : ∀ a q j, (s.pcAt a).parkedJ = some (q, j) → s.qSt q = some .waitingForUnpark →
    RegT s q j (s.threadOf a) ∨ FlightT s q (s.threadOf a)
  /-- a sync caller between its poll of a suspended job and its state update finds its thread's waker registered, or the wake-up on its way,
  or the wake-up landed and remembered as `AwokenWhileRunning` (then `run_one_job_now` polls again instead of parking) -/
  polled : ∀ a q j, (s.pcAt a).polledT = some (q, j) →
    RegT s q j (s.threadOf a) ∨ FlightT s q (s.threadOf a) ∨ s.qSt q = some .awokenWhileRunning

theorem wakeThread_not_wfu (st : QState) : wakeThread st ≠ .waitingForUnpark := by cases st <;> simp [wakeThread]
theorem wakeThread_awoken {st : QState} (h : st = .running ∨ st = .awokenWhileRunning) : wakeThread st = .awokenWhileRunning := by
  rcases h with rfl | rfl <;> rfl

theorem pcAt_lt {s : State} {b : Nat} (h : s.pcAt b ≠ .dead) : b < s.acts.length :=
  Nat.lt_of_not_le fun hle => h (pcAt_of_ge hle)

/-- The general step for the thread context; same shape as `WakeInv.step`. -/
theorem WakeTInv.step {s X : State} {a : Nat} (h : WakeTInv s) (hh : HolderInv s) (hw : WfInv s) (hf : FullInv s) (hp : ParkInv s)
    (hthr : ∀ b, b < s.acts.length → X.threadOf b = s.threadOf b)
    (hW : ∀ b q t, (s.pcAt b).wakesT q t = true → (X.pcAt b).wakesT q t = true ∨ Landed wakeThread s X q)
    (hP : ∀ b, b ≠ a → ∀ x, (X.pcAt b).parkedJ = some x → (s.pcAt b).parkedJ = some x)
    (hL : ∀ b, b ≠ a → ∀ x, (X.pcAt b).polledT = some x → (s.pcAt b).polledT = some x)
    (hreg : ∀ q j t, RegT s q j t → RegT X q j t ∨ FlightT X q t ∨ ∃ q', (s.pcAt a).runningQ = some (j, q'))
    (hq : ∀ q, QStSoft s X q ∨ (s.pcAt a).holds q = true)
    (hnewP : ∀ q j, (X.pcAt a).parkedJ = some (q, j) → X.qSt q = some .waitingForUnpark →
      RegT X q j (X.threadOf a) ∨ FlightT X q (X.threadOf a))
    (hnewL : ∀ q j, (X.pcAt a).polledT = some (q, j) →
      RegT X q j (X.threadOf a) ∨ FlightT X q (X.threadOf a) ∨ X.qSt q = some .awokenWhileRunning) : WakeTInv X := by
  have hreg' : ∀ b q j t, b ≠ a → (s.pcAt b).runningQ = some (j, q) → RegT s q j t → RegT X q j t ∨ FlightT X q t :=
    fun b q j t hba hb hr => (hreg q j t hr).elim .inl fun h1 => h1.elim .inr fun ⟨q', h2⟩ => absurd (runners_eq hf hb h2) hba
  refine ⟨?_, ?_⟩
  · intro b q j hb hst
    by_cases hba : b = a
    · subst hba; exact hnewP q j hb hst
    · replace hb := hP b hba _ hb
      have hrun := parkedJ_runningQ _ q j (hw b) hb
      have hs := (hq q).resolve_right fun hhold => hba (hh.exclusive hhold (holds_of_runningQ (hw b) hrun)).symm
      rw [hthr b (pcAt_lt fun e => by rw [e] at hb; cases hb)]
      exact Armed.step_parked (fl := (Pc.wakesT · q _)) (h.parked b q j hb (hs.wfu hst)) (hreg' b q j _ hba hrun) (hW · q _)
        fun st h7 => wakeThread_not_wfu st (Option.some.inj (h7.symm.trans hst))
  · intro b q j hb
    by_cases hba : b = a
    · subst hba; exact hnewL q j hb
    · replace hb := hL b hba _ hb
      obtain ⟨hrun, hnp⟩ := polledT_facts _ q j (hw b) hb
      have hold := holds_of_runningQ (hw b) hrun
      have hs := (hq q).resolve_right fun hhold => hba (hh.exclusive hhold hold).symm
      rw [hthr b (pcAt_lt fun e => by rw [e] at hb; cases hb)]
      -- the caller is not in the park loop, so its queue is being run and a wake-up that lands on it is remembered
      exact or_assoc.mp (Armed.step_polled (fl := (Pc.wakesT · q _)) (or_assoc.mpr (h.polled b q j hb)) (hreg' b q j _ hba hrun)
        (hW · q _) (fun st h6 => wakeThread_awoken (held_running hh hw hp hold hnp h6)) hs.aw)

theorem WakeTInv.soft {s X : State} (h : WakeTInv s) (hh : HolderInv s) (hw : WfInv s) (hf : FullInv s) (hp : ParkInv s)
    (hthr : ∀ b, b < s.acts.length → X.threadOf b = s.threadOf b)
    (hW : ∀ b q t, (s.pcAt b).wakesT q t = true → (X.pcAt b).wakesT q t = true ∨ Landed wakeThread s X q)
    (hP : ∀ b x, (X.pcAt b).parkedJ = some x → (s.pcAt b).parkedJ = some x)
    (hL : ∀ b x, (X.pcAt b).polledT = some x → (s.pcAt b).polledT = some x)
    (hreg : ∀ q j t, RegT s q j t → RegT X q j t ∨ FlightT X q t) (hq : ∀ q, QStSoft s X q) : WakeTInv X := by
  have hX : X.pcAt (s.acts.length + X.acts.length) = .dead := pcAt_of_ge (by omega)
  refine h.step (a := s.acts.length + X.acts.length) hh hw hf hp hthr hW (fun b _ => hP b) (fun b _ => hL b)
    (fun q j t hr => (hreg q j t hr).imp_right .inl) (fun q => .inl (hq q)) ?_ ?_
  · intro q j hq'; rw [hX] at hq'; cases hq'
  · intro q j hq'; rw [hX] at hq'; cases hq'

/-! `WakeTInv.step` specialised to the owner of a queue; not used by the step theorem either. -/

/-- A step of the owner of queue `q0` that rewrites only that queue's record (and perhaps job phases), after which the
mover is neither a caller that has just polled nor one in the park loop. -/
theorem WakeTInv.holder {s X : State} {a q0 : Nat} (h : WakeTInv s) (hh : HolderInv s) (hw : WfInv s) (hf : FullInv s) (hp : ParkInv s)
    (hthr : ∀ b, b < s.acts.length → X.threadOf b = s.threadOf b)
    (hold : (s.pcAt a).holds q0 = true)
    (hoth : ∀ b, b ≠ a → X.pcAt b = s.pcAt b)
    (hWa : ∀ q t, (s.pcAt a).wakesT q t = true → (X.pcAt a).wakesT q t = true)
    (hPa : (X.pcAt a).parkedJ = none) (hLa : (X.pcAt a).polledT = none)
    (hreg : ∀ j, X.regW j = s.regW j)
    (hqs : ∀ q, q ≠ q0 → X.qSt q = s.qSt q) : WakeTInv X := by
  refine h.step (a := a) hh hw hf hp hthr ?_ (fun b hba x hb => by rw [hoth b hba] at hb; exact hb)
    (fun b hba x hb => by rw [hoth b hba] at hb; exact hb) (fun q j t hr => .inl ((hreg j).trans hr)) ?_ ?_ ?_
  · intro b q t hb
    by_cases hba : b = a
    · subst hba; exact .inl (hWa q t hb)
    · exact .inl (by rw [hoth b hba]; exact hb)
  · intro q
    by_cases hq : q = q0
    · subst hq; exact .inr hold
    · exact .inl (.of_same (hqs q hq))
  · intro q j hq; rw [hPa] at hq; cases hq
  · intro q j hq; rw [hLa] at hq; cases hq

end Desync
