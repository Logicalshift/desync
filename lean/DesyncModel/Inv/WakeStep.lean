/-
I_wake, in both contexts, is preserved by every internal step of an execution without task-context steps.  What a step does to
the registrations (`Step.regW`) and to the queues (`Step.wakeQ`) is said once, for all rules; a rule at whose program counter the
mover neither polls a job nor stands in one of the windows after a poll needs, on top of that, only that its own wake-ups and
windows carry over (`IWake.quiet`); the other rules are taken one by one.
-/
import DesyncModel.Inv.WakeT
import DesyncModel.Inv.NoTask
import DesyncModel.Inv.ThreadStable

namespace Desync
open Gen

/-- is a wake-up through `w` on its way in this program counter?  Only for the two kinds of waker I_wake follows: of any other kind it
is `true` everywhere, and `Step.regW` says nothing about them -/
def Pc.fires (pc : Pc) : Waker → Bool
  | .queue q => pc.wakesQ q
  | .thread q t => pc.wakesT q t
  | _ => true

theorem fires_waking (w : Waker) (k : Pc) : (Pc.waking [w] k).fires w = true := by
  cases w
  case queue q => simp [Pc.fires, wakesQ_waking]
  case thread q t => simp [Pc.fires, wakesT_waking]
  all_goals rfl

/-- By `Step.jobs_cases`: the waker registered for a job stays, or it has been taken out and is now fired by the mover, or the mover is
polling the job, which registers its own waker. -/
theorem Step.regW {s s' : State} {a : Nat} {act : Act} (hst : Step s a act s') (ha : s.acts[a]? = some act) (j : Nat) (w : Waker)
    (hr : s.regW j = some w) : s'.regW j = some w ∨ (s'.pcAt a).fires w = true ∨ ∃ c k, act.pc = .jobAwait j c k := by
  have hlt := hst.lt_acts ha
  rcases hst.jobs_cases with e | ⟨j0, b, v, hb, e, -, -, -, -, hv⟩ | ⟨n, e, hn, -⟩
  · exact .inl ((regW_congr e j).trans hr)
  · rw [regW_set hb e]
    split
    · next hj =>
      subst hj
      have hbw : b.reg = some w := by simpa [State.regW, hb] using hr
      rcases hv with hv | ⟨-, hfire⟩ | ⟨c, k, hpc, -⟩
      · exact .inl (hv.trans hbw)
      · obtain ⟨X, k, rfl⟩ := hfire w hbw
        exact .inr (.inl (by rw [pcAt_goto_of_lt hlt]; exact fires_waking w k))
      · exact .inr (.inr ⟨c, k, hpc⟩)
    · exact .inl hr
  · exact .inl ((regW_append e hn j).trans hr)

theorem QState.keepsWake.refl (st : QState) : st.keepsWake st := ⟨id, id, id⟩

/-- the tables applied in passing, by role (`Tables/Moves`), neither park a queue nor forget a remembered wake-up -/
theorem QState.schedules_keepsWake {st st' : QState} (h : st.schedules st' = true) : st.keepsWake st' := by
  refine ⟨fun hp => ?_, QState.schedules_wfu h, fun hp => ?_⟩ <;> cases st <;> simp_all [QState.schedules]
theorem QState.wakes_keepsWake {st st' : QState} (h : st.wakes st' = true) : st.keepsWake st' := by
  refine ⟨fun hp => ?_, QState.wakes_wfu h, fun hp => ?_⟩ <;> cases st <;> simp_all [QState.wakes]
theorem entry_keepsWake {c : Prop} [Decidable c] {st st' : QState} (e : if c then st.grantable = true ∧ st' = .running else st' = st) :
    st.keepsWake st' := by
  split at e
  · obtain ⟨hg, rfl⟩ := e; exact ⟨nofun, nofun, fun hp => by rw [hp] at hg; cases hg⟩
  · exact e ▸ .refl st

theorem pollDecide_aw {self : Nat} {st : QState} (h : st = .awokenWhileRunning) : (pollDecide self st).1 = .awokenWhileRunning := by subst h; rfl
theorem syncNoPanicDecide_aw {st : QState} {e : Bool} (h : st = .awokenWhileRunning) : (syncNoPanicDecide st e).1 = .awokenWhileRunning := by subst h; cases e <;> rfl


theorem QSoft.of_qs {s X : State} (h : X.qs = s.qs) (q : Nat) : QSoft s X q := .of_same (qSt_congr h q) (qjobs_congr h q)

theorem qjobs_pushBack_ne (s : State) {q i : Nat} (j : Nat) (h : i ≠ q) : (s.pushBack q j).qjobs i = s.qjobs i := by
  unfold State.pushBack
  split
  · next v hv => rw [qjobs_setQ_of hv]; simp [h]
  · rfl

theorem qjobs_dequeue_ne (s : State) {q i : Nat} (a : Nat) (h : i ≠ q) : (s.dequeue q a).1.qjobs i = s.qjobs i := by
  unfold State.dequeue
  split
  · next v hv =>
    split
    · split
      · simp only [qjobs_setJobPh]; rw [qjobs_setQ_of hv]; simp [h]
      · rfl
    · rfl
  · rfl

/-- the queue whose record a rule of its owner at this program counter rewrites -/
def Pc.ownerWrites : Pc → Option Nat
  | .sdPush q _ | .siIdle q _ | .sdIdle q | .sbStealIdle q _ | .rjDequeue q _ | .rjPending q _ _ => some q
  | .pdDequeue _ q | .pdRequeue _ q _ | .pdPending _ q | .pdExit _ q => some q
  | _ => none

/-- the program counters at which the mover polls a job, or enters or leaves one of the windows after a poll: their rules are taken
one by one -/
def Pc.special : Pc → Bool
  | .jobAwait .. | .pdRequeue .. | .pdPending .. | .rjPending .. => true
  | _ => false

theorem ownerWrites_holds {pc : Pc} {q : Nat} (hc : pc.callerOk = true) (h : pc.ownerWrites = some q) : pc.holds q = true := by
  -- `h` is false but at the ten heads `ownerWrites` names; there `holds` is `q == q`, or that of a continuation `plainFor q`
  cases pc <;> first | (cases h; done) | (cases h; first | exact beq_self_eq_true _ | exact (plainFor_holds hc :))

theorem ownerWrites_quiet {pc : Pc} {q : Nat} (hc : pc.callerOk = true) (hs : pc.special = false) (h : pc.ownerWrites = some q) :
    pc.requeuing = none ∧ pc.pending = none ∧ pc.parkedJ = none ∧ pc.polledT = none := by
  -- of the ten heads `ownerWrites` names, three are `special`; the others stand in no window themselves, by computation, or
  -- (`rjDequeue`) pass the question to a continuation that is `plainFor q`
  cases pc <;> first | (cases h; done) | (cases hs; done) | exact ⟨rfl, rfl, rfl, rfl⟩ |
    exact ⟨(plainFor_facts hc).1, (plainFor_facts hc).2, (plainFor_factsT hc).2, (plainFor_factsT hc).1⟩

theorem drainExit_wfw {st : QState} {e : Bool} (h : (drainExit st e).1 = .waitingForWake) : st = .waitingForWake := by
  cases st <;> cases e <;> simp_all [drainExit]

/-- A queue keeps its state and jobs, or a table applied in passing rewrites its state (`QState.keepsWake`) and jobs are appended, or
the mover is its owner and rewrites its record — without parking it, except at the program counters that are `special`. -/
theorem Step.wakeQ {s s' : State} {a : Nat} {act : Act} (hh : HolderInv s) (hw : (s.pcAt a).callerOk = true) (ha : s.acts[a]? = some act)
    (hnt : act.pc.noTask = true) (hst : Step s a act s') (q : Nat) :
    QSoft s s' q ∨ (act.pc.ownerWrites = some q ∧ (s'.qSt q = some .waitingForWake → act.pc.special = true)) := by
  have hpca := pcAt_of ha
  -- the owner of `q0` rewrites its record; unless its program counter is `special`, it leaves `WaitingForWake` only where that was
  -- there already, which it was not
  have own : ∀ {X : State} {q0 : Nat}, act.pc.ownerWrites = some q0 → (∀ i, i ≠ q0 → X.qSt i = s.qSt i ∧ X.qjobs i = s.qjobs i) →
      (X.qSt q0 = some .waitingForWake → s.qSt q0 = some .waitingForWake ∨ act.pc.special = true) →
      QSoft s X q ∨ (act.pc.ownerWrites = some q ∧ (X.qSt q = some .waitingForWake → act.pc.special = true)) := by
    intro X q0 ho hoth hn
    by_cases e : q = q0
    · subst e
      exact .inr ⟨ho, fun h => (hn h).resolve_left (no_wfw_held hh (ownerWrites_holds hw (hpca ▸ ho)))⟩
    · exact .inl (.of_same (hoth q e).1 (hoth q e).2)
  -- a table applied in passing rewrites the state of `q0`; jobs `l` are appended.  The equation comes first and says what `v'` is; the
  -- fact about the table is a tactic block so that it is elaborated after it (as a term it is tried against an unknown `v'` first).
  have tab : ∀ {X : State} {q0 : Nat} {v v' : JobQ} {l : List Nat}, s.qs[q0]? = some v → X.qs = s.qs.set q0 v' → v'.jobs = v.jobs ++ l →
      v.state.keepsWake v'.state →
      QSoft s X q ∨ (act.pc.ownerWrites = some q ∧ (X.qSt q = some .waitingForWake → act.pc.special = true)) :=
    fun hv hX hj hk => .inl (.of_set hv hX hk hj q)
  cases hst
  case rqCs hv => exact tab (l := []) hv (by simp; rfl) (by simp) (by exact QState.schedules_keepsWake (reschedule_schedules _ _))
  case wqCsResched hv _ | wqCs hv _ => exact tab (l := []) hv (by simp; rfl) (by simp) (by exact QState.wakes_keepsWake (wakeQueue_wakes _))
  case wtCs hv => exact tab (l := []) hv (by simp; rfl) (by simp) (by exact QState.wakes_keepsWake (wakeThread_wakes _))
  case dsPushSchedule hv _ | dsPushNone hv _ | dsPushPanic hv _ => exact tab hv (by simp; rfl) (by rfl) (by exact QState.schedules_keepsWake (desyncPush_schedules _))
  case syImmediate hv _ | syDrain hv _ | syBackground hv _ | syPanic hv _ _ _ =>
    exact tab (l := []) hv (by simp; rfl) (by simp) (by exact entry_keepsWake (syncDecide_entry _ _))
  case tsImmediate hv _ | tsBusy hv _ | tsPanic hv _ _ => exact tab (l := []) hv (by simp; rfl) (by simp) (by exact entry_keepsWake (trySyncDecide_entry _ _))
  case sbClaimed hv _ | sbClaim hv _ => exact tab (l := []) hv (by simp; rfl) (by simp) (by exact entry_keepsWake (claim_entry _))
  case ptPopTake hv _ | ptPopSkip hv _ => exact tab (l := []) hv (by simp; rfl) (by simp) (by exact entry_keepsWake (nextToRun_entry _))
  case fdDropHandBack hv _ _ => exact tab (l := []) hv (by simp; rfl) (by simp) (by exact QState.wakes_keepsWake (futureDropDecide_wakes _ _))
  -- waiters come and go, jobs are appended
  case sbReg hv | sbPrune hv => exact tab (l := []) hv (by simp; rfl) (by simp) (by exact .refl _)
  case sbPushIdle hv _ | sbPush hv _ => exact tab hv (by simp; rfl) (by rfl) (by exact .refl _)
  case sdPush hpc => exact own (by rw [hpc]; rfl) (fun i hi => ⟨by simp, by simp [qjobs_pushBack_ne _ _ hi]⟩) fun h => .inl (by simpa using h)
  -- the owner writes `idle`: the word of its queue, if the queue exists, is not `WaitingForWake`
  case siIdle hpc _ | sdIdle hpc | sbStealIdle hpc =>
    exact own (by rw [hpc]; rfl) (fun i hi => ⟨by simp [qSt_setQState, hi], by simp⟩) fun h => by
      simp only [qSt_goto, qSt_setHolder, qSt_setQState, ↓reduceIte] at h; cases hq : s.qSt _ <;> simp [hq] at h
  case rjDequeue hpc _ | rjDequeueNone hpc _ | pdDequeue hpc _ | pdDequeueNone hpc _ =>
    exact own (by rw [hpc]; rfl) (fun i hi => ⟨by simp, by simp [qjobs_dequeue_ne _ _ hi]⟩) fun h => .inl (by simpa using h)
  case pdExitLeave hpc hv _ | pdExit hpc hv _ =>
    exact own (by rw [hpc]; rfl) (fun i hi => ⟨by simp [qSt_setQ hv, hi], by simp [qjobs_setQ_of hv, hi]⟩) fun h =>
      .inl (by simp only [qSt_goto, qSt_setHolder, qSt_setQ hv, ↓reduceIte, Option.some.injEq] at h; rw [qSt_of hv, drainExit_wfw h])
  case rjPendingPark hpc hv _ | rjPendingContinue hpc hv _ | rjPendingPanic hpc hv _ _ | rjPendingPanicNone hpc hv _ _
      | pdPendingLeave hpc hv _ | pdPending hpc hv _ =>
    exact own (by rw [hpc]; rfl) (fun i hi => ⟨by simp [qSt_setQ hv, hi], by simp [qjobs_setQ_of hv, hi]⟩) fun _ => .inr (by rw [hpc]; rfl)
  case pdRequeue hpc =>
    exact own (by rw [hpc]; rfl) (fun i hi => ⟨by simp, by simp [qjobs_pushFront, hi]⟩) fun _ => .inr (by rw [hpc]; rfl)
  -- the task-context code is not run; no other rule touches a queue
  case pfPollWait | pfPollDrain | pfPollPanic | dqDequeue | dqDequeueNone | dqRequeue | dqSetWfw | dqSetWfp | dqIdle2 | dqIdle =>
    rw [‹act.pc = _›] at hnt; cases hnt
  all_goals exact .inl (.of_qs (by simp) q)

structure IWake (s : State) : Prop where
  pool : WakeInv s
  thread : WakeTInv s

/-- the activity enters no window of either context -/
structure Pc.NoWindow (pc pc' : Pc) : Prop where
  requeuing : ∀ x, pc'.requeuing = some x → pc.requeuing = some x
  pending : ∀ x, pc'.pending = some x → pc.pending = some x
  parkedJ : ∀ x, pc'.parkedJ = some x → pc.parkedJ = some x
  polledT : ∀ x, pc'.polledT = some x → pc.polledT = some x

theorem Pc.NoWindow.of_eq {pc pc' : Pc} (h1 : pc'.requeuing = pc.requeuing) (h2 : pc'.pending = pc.pending) (h3 : pc'.parkedJ = pc.parkedJ)
    (h4 : pc'.polledT = pc.polledT) : pc.NoWindow pc' :=
  ⟨fun _ h => h1 ▸ h, fun _ h => h2 ▸ h, fun _ h => h3 ▸ h, fun _ h => h4 ▸ h⟩

/-- it enters no window and loses no wake-up it is to deliver -/
structure Pc.WakeSoft (pc pc' : Pc) : Prop extends pc.NoWindow pc' where
  wakesQ : ∀ q, pc.wakesQ q = true → pc'.wakesQ q = true
  wakesT : ∀ q t, pc.wakesT q t = true → pc'.wakesT q t = true

/-- a program counter as I_wake sees it: the wake-ups it is to deliver and the windows it stands in -/
def Pc.wakeView (pc : Pc) : (Nat → Bool) × (Nat → Nat → Bool) × Option (Nat × Nat) × Option Nat × Option (Nat × Nat) × Option (Nat × Nat) :=
  (fun q => pc.wakesQ q, fun q t => pc.wakesT q t, pc.requeuing, pc.pending, pc.parkedJ, pc.polledT)

theorem Pc.WakeSoft.of_view {pc pc' : Pc} (h : pc'.wakeView = pc.wakeView) : pc.WakeSoft pc' := by
  obtain ⟨hQ, hT, h1, h2, h3, h4⟩ : _ ∧ _ ∧ _ ∧ _ ∧ _ ∧ _ := by simpa only [Pc.wakeView, Prod.mk.injEq] using h
  exact ⟨.of_eq h1 h2 h3 h4, fun q hq => (congrFun hQ q).trans hq, fun q t hq => (congrFun (congrFun hT q) t).trans hq⟩

/-- what the proof of I_wake has in hand at a step of `a`, whatever its rule: the invariants known of `s`, and what the step leaves
alone -/
structure WakeFrame (s : State) (a : Nat) (X : State) : Prop where
  hh : HolderInv s
  hw : WfInv s
  hf : FullInv s
  hp : ParkInv s
  oth : ∀ b, b ≠ a → X.pcAt b = s.pcAt b ∨ (b = s.acts.length ∧ ∃ p, X.pcAt b = .ptRecv p)
  thr : ∀ b, b < s.acts.length → X.threadOf b = s.threadOf b
  reg : ∀ j w, s.regW j = some w → X.regW j = some w ∨ (X.pcAt a).fires w = true ∨ ∃ c k, s.pcAt a = .jobAwait j c k
  qs : ∀ q, QSoft s X q ∨ ((s.pcAt a).ownerWrites = some q ∧ (X.qSt q = some .waitingForWake → (s.pcAt a).special = true))

theorem Step.wakeFrame {s s' : State} {a : Nat} {act : Act} (hh : HolderInv s) (hw : WfInv s) (ha : s.acts[a]? = some act)
    (hf : FullInv s) (hp : ParkInv s) (hnt : act.pc.noTask = true) (hst : Step s a act s') : WakeFrame s a s' :=
  ⟨hh, hw, hf, hp, fun _ hb => hst.pcAt_ne hb, fun _ hb => hst.threadOf ha hb, pcAt_of ha ▸ hst.regW ha, pcAt_of ha ▸ hst.wakeQ hh (hw a) ha hnt⟩

namespace WakeFrame
variable {s X : State} {a : Nat} (fr : WakeFrame s a X)
include fr

/-- the other activities stay where they are; a new pool thread stands in no window and delivers no wake-up -/
theorem ne {b : Nat} (hb : b ≠ a) : (s.pcAt b).WakeSoft (X.pcAt b) := by
  rcases fr.oth b hb with e | ⟨rfl, p, e⟩ <;> rw [e]
  · exact .of_view rfl
  · rw [pcAt_len]; exact .of_view rfl

theorem flight {fl : Pc → Bool} {L : Prop} (hd : fl .dead = false) (hm : fl (s.pcAt a) = true → fl (X.pcAt a) = true ∨ L) (b : Nat)
    (hb : fl (s.pcAt b) = true) : fl (X.pcAt b) = true ∨ L := by
  by_cases e : b = a
  · exact e ▸ hm (e ▸ hb)
  · rcases fr.oth b e with e' | ⟨rfl, -⟩
    · exact .inl (e' ▸ hb)
    · rw [pcAt_len, hd] at hb; cases hb

theorem regW (j : Nat) (w : Waker) (hr : s.regW j = some w) :
    X.regW j = some w ∨ (∃ b, (X.pcAt b).fires w = true) ∨ ∃ q', (s.pcAt a).runningQ = some (j, q') :=
  (fr.reg j w hr).imp_right (·.imp (fun hf => ⟨a, hf⟩) fun ⟨c, _, e⟩ => ⟨c.q, by rw [e]; rfl⟩)

theorem holds (q : Nat) : QSoft s X q ∨ (s.pcAt a).holds q = true :=
  (fr.qs q).imp_right fun h => ownerWrites_holds (fr.hw a) h.1

end WakeFrame

theorem WakeFrame.armed {s X : State} {a j : Nat} {fl : Pc → Bool} {w : Waker} (fr : WakeFrame s a X)
    (hna : ∀ c k, s.pcAt a ≠ .jobAwait j c k) (hfire : (X.pcAt a).fires w = true → fl (X.pcAt a) = true) (hd : fl .dead = false)
    (hm : fl (s.pcAt a) = true → fl (X.pcAt a) = true) (h : Armed fl w s j) : Armed fl w X j :=
  h.elim (fun hr => (fr.reg j w hr).elim .inl fun h => h.elim (fun hf => .inr ⟨a, hfire hf⟩) fun ⟨c, k, e⟩ => absurd e (hna c k))
    fun ⟨b, hb⟩ => .inr ⟨b, (fr.flight (L := False) hd (fun h => .inl (hm h)) b hb).resolve_right id⟩

theorem WakeFrame.unparked {s X : State} {a : Nat} (fr : WakeFrame s a X)
    (hnw : ∀ q, (s.pcAt a).ownerWrites = some q → X.qSt q ≠ some .waitingForWake) (q : Nat) (hold : (s.pcAt a).holds q = true) :
    X.qSt q ≠ some .waitingForWake := fun hst =>
  (fr.qs q).elim (fun hs => no_wfw_held fr.hh hold (hs.wfw hst)) fun h => hnw q h.1 hst

section
variable {s X : State} {a : Nat} {P P' : Pc} (fr : WakeFrame s a X) (hP : s.pcAt a = P) (hP' : X.pcAt a = P')
include fr hP hP'

/-- the general step of the pool context with the frame put in: what is left is the mover's own, from `P` to `P'` -/
theorem WakeInv.frame_step (h : WakeInv s)
    (hW : ∀ q, P.wakesQ q = true → P'.wakesQ q = true ∨ Landed (fun st => (wakeQueue st).1) s X q)
    (hpark : ∀ q, P.holds q = true → X.qSt q = some .waitingForWake → ∃ j rest, X.qjobs q = some (j :: rest) ∧ (Reg X q j ∨ Flight X q))
    (hnew1 : ∀ q j, P'.requeuing = some (q, j) → Reg X q j ∨ Flight X q ∨ X.qSt q = some .awokenWhileRunning)
    (hnew2 : ∀ q, P'.pending = some q →
      ∃ j rest, X.qjobs q = some (j :: rest) ∧ (Reg X q j ∨ Flight X q ∨ X.qSt q = some .awokenWhileRunning)) : WakeInv X := by
  subst hP hP'
  exact h.step fr.hh fr.hw fr.hf fr.hp (fun b q => fr.flight (fl := (Pc.wakesQ · q)) rfl (hW q) b) (fun _ hb => (fr.ne hb).requeuing)
    (fun _ hb => (fr.ne hb).pending) (fun q j => fr.regW j (.queue q)) fr.holds
    hpark hnew1 hnew2

theorem WakeTInv.frame_step (h : WakeTInv s)
    (hW : ∀ q t, P.wakesT q t = true → P'.wakesT q t = true ∨ Landed wakeThread s X q)
    (hnewP : ∀ q j, P'.parkedJ = some (q, j) → X.qSt q = some .waitingForUnpark → RegT X q j (X.threadOf a) ∨ FlightT X q (X.threadOf a))
    (hnewL : ∀ q j, P'.polledT = some (q, j) →
      RegT X q j (X.threadOf a) ∨ FlightT X q (X.threadOf a) ∨ X.qSt q = some .awokenWhileRunning) : WakeTInv X := by
  subst hP hP'
  exact h.step fr.hh fr.hw fr.hf fr.hp fr.thr (fun b q t => fr.flight (fl := (Pc.wakesT · q t)) rfl (hW q t) b) (fun _ hb => (fr.ne hb).parkedJ)
    (fun _ hb => (fr.ne hb).polledT) (fun q j t => fr.regW j (.thread q t))
    (fun q => (fr.holds q).imp_left (·.toQStSoft)) hnewP hnewL

theorem WakeInv.frame_out (h : WakeInv s)
    (hW : ∀ q, P.wakesQ q = true → P'.wakesQ q = true ∨ Landed (fun st => (wakeQueue st).1) s X q)
    (hnw : ∀ q, P.ownerWrites = some q → X.qSt q ≠ some .waitingForWake) (h1 : P'.requeuing = none) (h2 : P'.pending = none) :
    WakeInv X :=
  h.frame_step fr hP hP' hW (fun q hold hst => absurd hst (fr.unparked (hP ▸ hnw) q (hP ▸ hold)))
    (fun _ _ hx => nomatch h1.symm.trans hx) fun _ hx => nomatch h2.symm.trans hx

theorem WakeTInv.frame_out (h : WakeTInv s) (hW : ∀ q t, P.wakesT q t = true → P'.wakesT q t = true ∨ Landed wakeThread s X q)
    (h1 : P'.parkedJ = none) (h2 : P'.polledT = none) : WakeTInv X :=
  h.frame_step fr hP hP' hW (fun _ _ hx => nomatch h1.symm.trans hx) fun _ _ hx => nomatch h2.symm.trans hx

/-- A step in which no queue is rewritten by its owner, no registration is overwritten, the mover's wake-ups stay on their way or land
and it enters no window: the mover is like any other activity. -/
theorem IWake.soft (h : IWake s) (ho : P.ownerWrites = none) (hreg : ∀ j w, s.regW j = some w → X.regW j = some w ∨ P'.fires w = true)
    (hWQ : ∀ q, P.wakesQ q = true → P'.wakesQ q = true ∨ Landed (fun st => (wakeQueue st).1) s X q)
    (hWT : ∀ q t, P.wakesT q t = true → P'.wakesT q t = true ∨ Landed wakeThread s X q) (hC : P.NoWindow P') : IWake X := by
  subst hP hP'
  have hq : ∀ q, QSoft s X q := fun q => (fr.qs q).resolve_right fun h => by rw [ho] at h; cases h.1
  have all : ∀ b, (s.pcAt b).NoWindow (X.pcAt b) := fun b => if e : b = a then e ▸ hC else (fr.ne e).toNoWindow
  exact ⟨h.pool.soft fr.hh fr.hw fr.hf fr.hp (fun b q => fr.flight (fl := (Pc.wakesQ · q)) rfl (hWQ q) b) (fun b => (all b).requeuing) (fun b => (all b).pending)
      (fun q j hr => (hreg j _ hr).imp_right fun hf => ⟨a, hf⟩) hq,
    h.thread.soft fr.hh fr.hw fr.hf fr.hp fr.thr (fun b q t => fr.flight (fl := (Pc.wakesT · q t)) rfl (hWT q t) b) (fun b => (all b).parkedJ) (fun b => (all b).polledT)
      (fun q j t hr => (hreg j _ hr).imp_right fun hf => ⟨a, hf⟩) fun q => (hq q).toQStSoft⟩

/-- If the mover rewrites the record of a queue it owns, it is in no window before, hence in none after, and it does not park the queue;
otherwise `IWake.soft`. -/
theorem IWake.quiet (h : IWake s) (hsp : P.special = false)
    (hWQ : ∀ q, P.wakesQ q = true → P'.wakesQ q = true ∨ Landed (fun st => (wakeQueue st).1) s X q)
    (hWT : ∀ q t, P.wakesT q t = true → P'.wakesT q t = true ∨ Landed wakeThread s X q) (hC : P.NoWindow P') : IWake X := by
  cases ho : P.ownerWrites with
  | none =>
    refine h.soft fr hP hP' ho (fun j w hr => ?_) hWQ hWT hC
    exact hP' ▸ (fr.reg j w hr).imp_right (·.resolve_right fun ⟨c, k, e⟩ => by rw [hP.symm.trans e] at hsp; cases hsp)
  | some q0 =>
    have hc : P.callerOk = true := hP ▸ fr.hw a
    obtain ⟨n1, n2, n3, n4⟩ := ownerWrites_quiet hc hsp ho
    refine ⟨h.pool.frame_out fr hP hP' hWQ (fun q h hst => ?_) (Option.none_of_imp hC.requeuing n1) (Option.none_of_imp hC.pending n2),
      h.thread.frame_out fr hP hP' hWT (Option.none_of_imp hC.parkedJ n3) (Option.none_of_imp hC.polledT n4)⟩
    have := ((fr.qs q).resolve_left fun hs => no_wfw_held fr.hh (hP ▸ ownerWrites_holds hc h) (hs.wfw hst)).2 hst
    rw [hP, hsp] at this; cases this

theorem IWake.plain (h : IWake s) (hsp : P.special = false) (hv : P'.wakeView = P.wakeView) : IWake X :=
  have hs := Pc.WakeSoft.of_view hv
  h.quiet fr hP hP' hsp (fun q h => .inl (hs.wakesQ q h)) (fun q t h => .inl (hs.wakesT q t h)) hs.toNoWindow

end

theorem wakesQ_waking_of {ws : List Waker} {k : Pc} {q : Nat} (h : k.wakesQ q = true) : (Pc.waking ws k).wakesQ q = true := by
  rw [wakesQ_waking, h, Bool.or_true]
theorem wakesT_waking_of {ws : List Waker} {k : Pc} {q t : Nat} (h : k.wakesT q t = true) : (Pc.waking ws k).wakesT q t = true := by
  rw [wakesT_waking, h, Bool.or_true]

theorem runOnePending_wfw {st : QState} (h : (runOnePending st).1 = .waitingForWake) : st = .waitingForWake := by
  cases st <;> simp_all [runOnePending]
theorem drainPending_nowfw {st : QState} (h2 : (drainPending st).2 = false) (h : (drainPending st).1 = .waitingForWake) : st = .waitingForWake := by
  cases st <;> simp_all [drainPending]

theorem owner_unparked {s X : State} {a q : Nat} {P : Pc} {v : JobQ} {st' : QState} (hh : HolderInv s) (hw : WfInv s) (hP : s.pcAt a = P)
    (ho : P.ownerWrites = some q) (hv : s.qs[q]? = some v) (hX : X.qSt q = some st')
    (htab : st' = .waitingForWake → v.state = .waitingForWake) (q' : Nat) (ho' : P.ownerWrites = some q') :
    X.qSt q' ≠ some .waitingForWake := by
  cases ho.symm.trans ho'
  exact fun h => no_wfw_held hh (ownerWrites_holds (hw a) (hP ▸ ho)) (by rw [qSt_of hv, htab (Option.some.inj (hX.symm.trans h))])

/-- All rules but those named go from a program counter to one that is the same to every classification of I_wake, by computation
(`IWake.plain`). -/
theorem Step.iwake {s s' : State} {a : Nat} {act : Act} (hnt : NoTaskInv s) (hh : HolderInv s) (hw : WfInv s) (hf : FullInv s)
    (hp : ParkInv s) (h : IWake s) (ha : s.acts[a]? = some act) (hst : Step s a act s') : IWake s' := by
  have hlt := hst.lt_acts ha
  have hpca := pcAt_of ha
  have hntw := hnt.pcs a
  have fr := hst.wakeFrame hh hw ha hf hp (hpca ▸ hntw)
  have quiet := fun {P P' : Pc} => h.quiet fr (P := P) (P' := P')
  have plain := fun {P P' : Pc} => h.plain fr (P := P) (P' := P')
  cases hst
  all_goals have hsa := hpca.trans ‹act.pc = _›
  -- a wake-up lands
  case wqCsResched q k v _ hv _ | wqCs q k v _ hv _ =>
    refine quiet hsa (pcAt_goto_of_lt hlt) rfl (fun q' hq' => ?_) (fun _ _ h => .inl h) (.of_eq rfl rfl rfl rfl)
    rcases Bool.or_eq_true_iff.mp hq' with e | e
    · cases beq_iff_eq.mp e; exact .inr ⟨v.state, qSt_of hv, by simp [qSt_setQ hv]⟩
    · exact .inl e
  case wtCs q th k v _ hv =>
    refine quiet hsa (pcAt_goto_of_lt hlt) rfl (fun _ h => .inl h) (fun q' t hq' => ?_) (.of_eq rfl rfl rfl rfl)
    rcases Bool.or_eq_true_iff.mp hq' with e | e
    · cases beq_iff_eq.mp (Bool.and_eq_true_iff.mp e).1; exact .inr ⟨v.state, qSt_of hv, by simp [qSt_setQ hv]⟩
    · exact .inl e
  -- wakers taken out of their slot are to be fired before the continuation, which keeps its own wake-ups
  case openSendSfWake | openSendJobWake | lwCsWake | dwCsWake | jobStartSlotWake | suspSignalWake | jobSignalWake
      | jobSigDropCancelWake | sfDropDoneWake | resumeSendWake =>
    exact quiet hsa (pcAt_goto_of_lt hlt) rfl (fun _ h => .inl (wakesQ_waking_of h)) (fun _ _ h => .inl (wakesT_waking_of h))
      (.of_eq rfl rfl rfl rfl)
  -- the head of the list becomes the critical section to run
  case wakingQueue q0 _ _ _ =>
    exact quiet hsa (pcAt_goto_of_lt hlt) rfl (fun q h => .inl (by simpa [wakesQ_waking, wakesQ_wqCs, or_assoc, @eq_comm _ q0] using h))
      (fun q t h => .inl (show (Pc.waking _ _).wakesT q t = true by simpa [wakesT_waking] using h)) (.of_eq rfl rfl rfl rfl)
  case wakingThread q0 t0 _ _ _ =>
    exact quiet hsa (pcAt_goto_of_lt hlt) rfl (fun q h => .inl (show (Pc.waking _ _).wakesQ q = true by simpa [wakesQ_waking] using h))
      (fun q t h => .inl (by simpa [wakesT_waking, wakesT_wtCs, or_assoc, @eq_comm _ q0, @eq_comm _ t0] using h)) (.of_eq rfl rfl rfl rfl)
  case tsBusy | fsTakeReady => exact plain hsa (pcAt_setAct_of_lt hlt) rfl rfl
  case jobDrop c _ _ _ _ _ | jobDropNotify c _ _ _ _ _ _ _ =>
    cases c <;> exact plain hsa (pcAt_goto_of_lt hlt) rfl rfl
  -- the park loop of `run_one_job_now`: the caller leaves it, to poll again or to unwind
  case rjParkCheckContinue q _ k _ _ =>
    have hk : k.plainFor q = true := (hsa ▸ hw a :)
    exact quiet hsa (pcAt_goto_of_lt hlt) rfl (fun _ h => .inl h) (fun _ _ h => .inl h)
      ⟨fun _ h => h, fun _ h => h, (fun _ h => nomatch (plainFor_factsT hk).2.symm.trans h), fun _ h => h⟩
  case rjParkCheckPanic | rjParkCheckPanicNone =>
    exact quiet hsa (pcAt_goto_of_lt hlt) rfl (fun _ h => .inl h) (fun _ _ h => .inl h) ⟨nofun, nofun, nofun, nofun⟩
  -- the poll finds the awaited event there: no registration
  case jobAwaitSlot | jobAwaitSusp | jobAwaitReady =>
    exact h.soft fr hsa (pcAt_goto_of_lt hlt) rfl (fun j w hr => .inl ((regW_congr (jobs_goto _ _ _) j).trans hr))
      (fun _ h => .inl h) (fun _ _ h => .inl h) (.of_eq rfl rfl rfl rfl)
  case jobAwaitAfter jb _ _ _ _ hjb _ _ =>
    exact h.soft fr hsa (pcAt_goto_of_lt hlt) rfl
      (fun j w hr => .inl ((regW_set_keep (s := s) (v := { jb with begun := true }) (by simp [State.setJob]) hjb rfl j).trans hr))
      (fun _ h => .inl h) (fun _ _ h => .inl h) (.of_eq rfl rfl rfl rfl)
  case jobAwaitPendingSlot jb _ _ _ _ hjb _ hk _ => have := hnt.jobs jb (List.mem_of_getElem? hjb); rw [hk] at this; cases this
  -- `run_one_job_now` after a `Pending` poll: the caller parks, unless a wake-up was remembered, in which case it polls again
  case rjPendingPark q j k v _ hv hr =>
    have hk : k.plainFor q = true := (hsa ▸ hw a :)
    have hP' := pcAt_goto_of_lt hlt
    refine ⟨h.pool.frame_out fr hsa hP' (fun _ h => .inl h)
        (owner_unparked hh hw hsa rfl hv (by simp [qSt_setQ hv]) runOnePending_wfw) (plainFor_facts hk).1 (plainFor_facts hk).2,
      h.thread.frame_step fr hsa hP' (fun _ _ h => .inl h) (fun q' j' hx hst => ?_)
        fun q' j' hx => nomatch (plainFor_factsT hk).1.symm.trans hx⟩
    cases hx
    rw [fr.thr a (lt_of_getElem?_some ha)]
    rcases or_assoc.mpr (h.thread.polled a q j (by rw [hsa]; rfl)) with hA | hAW
    · exact fr.armed (fl := (Pc.wakesT · q (s.threadOf a))) (by rw [hsa]; exact nofun) id rfl (by rw [hsa, hP']; exact id) hA
    · rw [qSt_of hv] at hAW; rw [Option.some.inj hAW] at hr; cases hr
  case rjPendingContinue q _ k v _ hv _ =>
    have hk : k.plainFor q = true := (hsa ▸ hw a :)
    exact ⟨h.pool.frame_out fr hsa (pcAt_goto_of_lt hlt) (fun _ h => .inl h)
        (owner_unparked hh hw hsa rfl hv (by simp [qSt_setQ hv]) runOnePending_wfw) (plainFor_facts hk).1 (plainFor_facts hk).2,
      h.thread.frame_out fr hsa (pcAt_goto_of_lt hlt) (fun _ _ h => .inl h) (plainFor_factsT hk).2 (plainFor_factsT hk).1⟩
  case rjPendingPanic q _ k v _ _ hv _ _ | rjPendingPanicNone q _ k v _ hv _ _ =>
    exact ⟨h.pool.frame_out fr hsa (pcAt_goto_of_lt hlt) (fun _ h => .inl h)
        (owner_unparked hh hw hsa rfl hv (by simp [qSt_setQ hv]) runOnePending_wfw) rfl rfl,
      h.thread.frame_out fr hsa (pcAt_goto_of_lt hlt) (fun _ _ h => .inl h) rfl rfl⟩
  -- `drain` after a `Pending` poll: the job goes back to the head of the queue
  case pdRequeue p q j _ =>
    have hP' := pcAt_goto_of_lt hlt
    have hold : (s.pcAt a).holds q = true := ownerWrites_holds (hw a) (by rw [hsa]; rfl)
    have hqst : ∀ i, (((s.pushFront q j).setJobPh j .queued).goto a (.pdPending p q)).qSt i = s.qSt i := fun i => by simp
    refine ⟨h.pool.frame_step fr hsa hP' nofun (fun q' hold' hst => ?_) nofun (fun q' hx => ?_),
      h.thread.frame_out fr hsa hP' nofun rfl rfl⟩
    · exact absurd (hqst q' ▸ hst) (no_wfw_held hh (hsa ▸ hold'))
    · cases hx
      obtain ⟨-, v, hv⟩ := hh.mine ha (hpca ▸ hold)
      refine ⟨j, v.jobs, by simp [qjobs_pushFront, qjobs_of hv], ?_⟩
      rw [hqst]
      rcases or_assoc.mpr (h.pool.poll1 a q j (by rw [hsa]; rfl)) with hA | hAW
      · exact or_assoc.mp (.inl (fr.armed (fl := (Pc.wakesQ · q)) (by rw [hsa]; exact nofun) id rfl (by rw [hsa]; exact nofun) hA))
      · exact .inr (.inr hAW)
  -- then the pool thread parks the queue, unless a wake-up was remembered, in which case it polls again
  case pdPendingLeave p q v _ hv hr =>
    refine ⟨h.pool.frame_step fr hsa (pcAt_goto_of_lt hlt) nofun (fun q' hold' hst => ?_) nofun nofun,
      h.thread.frame_out fr hsa (pcAt_goto_of_lt hlt) nofun rfl rfl⟩
    cases beq_iff_eq.mp hold'
    obtain ⟨j, rest, hl, hc⟩ := h.pool.poll2 a q (by rw [hsa]; rfl)
    refine ⟨j, rest, by simpa [qjobs_setQ_of hv, qjobs_of hv] using hl, ?_⟩
    rcases or_assoc.mpr hc with hA | hAW
    · exact fr.armed (fl := (Pc.wakesQ · q)) (by rw [hsa]; exact nofun) id rfl (by rw [hsa]; exact nofun) hA
    · rw [qSt_of hv] at hAW; rw [Option.some.inj hAW] at hr; cases hr
  case pdPending p q v _ hv hr =>
    exact ⟨h.pool.frame_out fr hsa (pcAt_goto_of_lt hlt) nofun
        (owner_unparked hh hw hsa rfl hv (by simp [qSt_setQ hv]) (drainPending_nowfw hr)) rfl rfl,
      h.thread.frame_out fr hsa (pcAt_goto_of_lt hlt) nofun rfl rfl⟩
  -- the poll that finds the awaited event not yet there registers the context's waker, and the mover enters its window
  case jobAwaitPending j c k jb _ hjb _ _ =>
    have hP' := pcAt_goto_of_lt hlt
    have hregj : ((s.setJob j { jb with reg := some (ctxWaker act.thread c) }).goto a (ctxPending j k c)).regW j =
        some (ctxWaker act.thread c) := by
      rw [regW_set (v := { jb with reg := some (ctxWaker act.thread c) }) hjb (by simp), if_pos rfl]
    cases c with
    | caller q =>
      have hk : k.plainFor q = true := (hsa ▸ hw a :)
      exact ⟨h.pool.frame_out fr hsa hP' (fun _ h => .inl h) nofun (plainFor_facts hk).1 (plainFor_facts hk).2,
        h.thread.frame_step fr hsa hP' (fun _ _ h => .inl h) (fun q' j' hx _ => nomatch (plainFor_factsT hk).2.symm.trans hx)
          fun q' j' hx => by
            cases hx
            exact .inl (by rw [RegT, hregj, fr.thr a (lt_of_getElem?_some ha), threadOf_of ha]; rfl)⟩
    | pool p q =>
      exact ⟨h.pool.frame_step fr hsa hP' nofun
          (fun q' hold hst => absurd hst (fr.unparked (by rw [hsa]; exact nofun) q' (hsa ▸ hold)))
          (fun q' j' hx => by cases hx; exact .inl hregj) nofun,
        h.thread.frame_out fr hsa hP' nofun rfl rfl⟩
    | task f l q => rw [hsa] at hntw; cases hntw
  -- the rules of the task-context code cannot fire
  case pfPollReady | pfPollWait | pfPollDrain | pfPollPanic | pfPollRelDrain | pfPollRel | pfBlocked | pollReadyAwait | pollReadySfQueue
      | pollReadySfSched | pollPendingOnce | pollPendingAwait | pollPendingSfQueue | pollPendingSfSched | sfPollQueue | sfPollFuture
      | sfPollSched | sfPollCompleted | sfRecvReady | sfRecv | sfUserReady | sfUser | sfFinishWake | sfFinish | sfBlockedOnce | sfBlocked
      | dqCheckReady | dqCheck | dqDequeue | dqDequeueNone | dqRequeue | dqCheck2Ready | dqCheck2 | dqSetWfw | dqStore | dqSetWfp
      | dqWakeWithNow | dqWakeWith | dqStore2 | dqIdle2 | dqIdle => rw [hsa] at hntw; cases hntw
  all_goals exact plain hsa (pcAt_goto_of_lt hlt) rfl rfl

end Desync
