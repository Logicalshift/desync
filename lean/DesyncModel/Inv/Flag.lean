/-
A flag of a job that is raised once, by the activity that has the job in hand, at a fixed point of running it (`begun` of a closure
job: the closure is invoked; `sig`: the result is signalled).  `JobFlagInv F n`: a job whose flag `F` is up is in no queue's list, and
whoever has it in hand has reached stage `n` (`Pc.stage`); as the stage of a job in hand never goes back, the step that raises the
flag is taken at most once per job.  The flow of jobs between the lists and the hands (`JobFlow`, one pass over the rules) does not
depend on the flag; an instance supplies where its flag is raised (`JobFlagRules`).
-/
import DesyncModel.Inv.JobReach
import DesyncModel.Inv.StepTables
namespace Desync
open Gen

/-- the flag `F` of job `j` (down for a job that does not exist yet) -/
def State.jobFlag (s : State) (F : Job → Bool) (j : Nat) : Bool := match s.jobs[j]? with | some b => F b | none => false

theorem jobFlag_of {F : Job → Bool} {s : State} {j : Nat} {b : Job} (h : s.jobs[j]? = some b) : s.jobFlag F j = F b := by
  simp [State.jobFlag, h]

theorem jobFlag_fresh {F : Job → Bool} {s : State} {j : Nat} (h : s.jobs.length ≤ j) : s.jobFlag F j = false := by
  simp [State.jobFlag, List.getElem?_eq_none h]

theorem jobFlag_same {F : Job → Bool} {s X : State} (h : X.jobs = s.jobs) (j : Nat) : X.jobFlag F j = s.jobFlag F j := by
  simp only [State.jobFlag, h]

theorem jobFlag_set {F : Job → Bool} {s X : State} {j : Nat} {b : Job} (hb : s.jobs[j]? = some b) {v : Job} (hX : X.jobs = s.jobs.set j v)
    (i : Nat) : X.jobFlag F i = if i = j then F v else s.jobFlag F i := by
  by_cases e : i = j <;> simp [State.jobFlag, hX, getElem?_set_of hb, e]

theorem jobFlag_of_goto {F : Job → Bool} {s X : State} {a : Nat} {pc : Pc} {j : Nat} (hj : (X.goto a pc).jobFlag F j = true)
    (h : X.jobs = s.jobs) : s.jobFlag F j = true :=
  (jobFlag_same ((jobs_goto X a pc).trans h) j).symm.trans hj

theorem jobFlag_set_keep {F : Job → Bool} {s X : State} {j : Nat} {b v : Job} (hb : s.jobs[j]? = some b) (hX : X.jobs = s.jobs.set j v)
    (hF : F v = F b) (i : Nat) : X.jobFlag F i = s.jobFlag F i :=
  upd_same (jobFlag_set hb hX) (hF.trans (jobFlag_of hb).symm) i

theorem jobFlag_append {F : Job → Bool} {s X : State} {nj : Job} (hX : X.jobs = s.jobs ++ [nj]) (i : Nat) :
    X.jobFlag F i = if i = s.jobs.length then F nj else s.jobFlag F i := by
  by_cases e : i = s.jobs.length <;> simp [State.jobFlag, hX, getElem?_append_one, e]

theorem jobFlag_append_keep {F : Job → Bool} {s X : State} {nj : Job} (hX : X.jobs = s.jobs ++ [nj]) (hF : F nj = false) (i : Nat) :
    X.jobFlag F i = s.jobFlag F i :=
  upd_same (jobFlag_append hX) (hF.trans (jobFlag_fresh (Nat.le_refl _)).symm) i

theorem jobFlag_setJobPh {F : Job → Bool} (hF : ∀ (b : Job) (ph : Phase), F { b with ph := ph } = F b) (s : State) (j : Nat) (ph : Phase)
    (i : Nat) : (s.setJobPh j ph).jobFlag F i = s.jobFlag F i := by
  rcases s.jobs_setJobPh_cases j ph with e | ⟨b, hb, e⟩
  · exact jobFlag_same e i
  · exact jobFlag_set_keep hb e (hF b ph) i

theorem jobFlag_dequeue {F : Job → Bool} (hF : ∀ (b : Job) (ph : Phase), F { b with ph := ph } = F b) (s : State) (q a i : Nat) :
    (s.dequeue q a).1.jobFlag F i = s.jobFlag F i := by
  rcases s.jobs_dequeue_cases q a with e | ⟨j, b, hb, e⟩
  · exact jobFlag_same e i
  · exact jobFlag_set_keep hb e (hF b _) i

/-- How far the job in hand has come: its closure has been invoked, or is about to be and `begun` is set (1); its result has been
signalled (2).  Like `Pc.runningQ` it looks through the calls made with the job in hand. -/
def Pc.stage : Pc → Nat
  | .begin _ k | .body _ k => k.stage
  | .stReap k | .stScanLock k | .stScan _ k | .stScanHeld _ k | .stScanRel _ _ k
  | .stScanUnlock _ k | .stReadMax k | .stSpawn _ k | .stSpawnRel k => k.stage
  | .rqCs _ k | .rqNotifyAcq _ _ _ k | .rqNotify _ _ _ k | .rqNotifyRel _ _ _ k | .rqPush _ k => k.stage
  | .resumeSend _ k | .waking _ k | .openSend _ k | .wqCs _ k | .wtCs _ _ k | .wtUnpark _ k | .lwCs _ k | .dwCs _ k => k.stage
  | .jobBodyDone _ _ _ | .jobSignal _ _ _ | .siIdle _ _ => 1
  | .jobSigDrop _ _ _ | .jobDrop _ _ _ => 2
  | .pfPollRel _ next => next.stage
  | .dqWakeWith _ _ _ k => k.stage
  | .fdDrop _ k => k.stage
  | _ => 0

theorem stage_ctxPending (j : Nat) (k : Pc) (c : Ctx) : (ctxPending j k c).stage = 0 := by cases c <;> rfl

structure JobFlagInv (F : Job → Bool) (n : Nat) (s : State) : Prop where
  /-- whoever has in hand a job whose flag is up has reached stage `n` of running it, so is at or past the point where the flag is raised -/
  holders : ∀ a j q, (s.pcAt a).runningQ = some (j, q) → s.jobFlag F j = true → n ≤ (s.pcAt a).stage
  /-- such a job is never (back) in a queue: every job listed in a queue has its flag down -/
  queued : ∀ q l j, s.qjobs q = some l → j ∈ l → s.jobFlag F j = false

theorem JobFlagInv.of_no_jobs {F : Job → Bool} {n : Nat} {s : State} (h : s.jobs = []) : JobFlagInv F n s :=
  ⟨fun a j q _ hs => by simp [State.jobFlag, h] at hs, fun q l j _ _ => by simp [State.jobFlag, h]⟩

theorem JobFlagInv.same {F : Job → Bool} {n : Nat} {s X : State} (h : JobFlagInv F n s) (hq : X.qs = s.qs) (hj : X.jobs = s.jobs)
    (hpc : ∀ b, (X.pcAt b).runningQ = none ∨ ((X.pcAt b).runningQ = (s.pcAt b).runningQ ∧ (s.pcAt b).stage ≤ (X.pcAt b).stage)) :
    JobFlagInv F n X := by
  refine ⟨fun b j q hr hs => ?_, fun q l j hl hm => ?_⟩
  · rcases hpc b with e | ⟨e, hp⟩
    · rw [e] at hr; cases hr
    · exact Nat.le_trans (h.holders b j q (e ▸ hr) (jobFlag_same hj j ▸ hs)) hp
  · rw [jobFlag_same hj]
    exact h.queued q l j (by simpa only [State.qjobs, hq] using hl) hm

/-- The flow of jobs in one step of activity `a`, which stands at `pc`: where the job in its hand afterwards comes from, and where the
members of the queues' lists come from. -/
structure JobFlow (s : State) (a : Nat) (pc : Pc) (s' : State) : Prop where
  /-- the job in hand was in that hand before, and then `a` has not gone back; or it was in the queue's list; or it is new -/
  hand : ∀ j q, (s'.pcAt a).runningQ = some (j, q) →
    (pc.runningQ = some (j, q) ∧ pc.stage ≤ (s'.pcAt a).stage) ∨ (∃ l, s.qjobs q = some l ∧ j ∈ l) ∨ s.jobs.length ≤ j
  /-- a member of a list was in it before, or `a` has put it back from one of the two requeue points, or it is new; in the last two
  cases `a` has no job in hand afterwards -/
  list : ∀ q l' j, s'.qjobs q = some l' → j ∈ l' → (∃ l, s.qjobs q = some l ∧ j ∈ l) ∨
    ((s'.pcAt a).runningQ = none ∧ ((∃ p, pc = .pdRequeue p q j) ∨ (∃ f l, pc = .dqRequeue f j l q) ∨ s.jobs.length ≤ j))

theorem JobFlow.of_goto {s X : State} {a : Nat} {pc pc' : Pc}
    (hand : ∀ j q, pc'.runningQ = some (j, q) →
      (pc.runningQ = some (j, q) ∧ pc.stage ≤ pc'.stage) ∨ (∃ l, s.qjobs q = some l ∧ j ∈ l) ∨ s.jobs.length ≤ j)
    (list : ∀ q l' j, X.qjobs q = some l' → j ∈ l' → (∃ l, s.qjobs q = some l ∧ j ∈ l) ∨
      (pc'.runningQ = none ∧ ((∃ p, pc = .pdRequeue p q j) ∨ (∃ f l, pc = .dqRequeue f j l q) ∨ s.jobs.length ≤ j))) :
    JobFlow s a pc (X.goto a pc') := by
  rcases Nat.lt_or_ge a X.acts.length with hlt | hge
  · exact ⟨by rw [pcAt_goto_self _ hlt]; exact hand, by simp only [qjobs_goto, pcAt_goto_self _ hlt]; exact list⟩
  · -- `a` names no activity: nothing moves
    have e : (X.goto a pc').pcAt a = .dead := by rw [pcAt_goto, if_neg (fun h => Nat.not_lt.mpr hge h.2), pcAt_of_ge hge]
    refine ⟨fun j q hr => (by rw [e] at hr; cases hr), fun q l' j hl hm => ?_⟩
    rw [qjobs_goto] at hl
    exact (list q l' j hl hm).imp id (fun h => ⟨by rw [e]; rfl, h.2⟩)

theorem JobFlow.keep {s s' : State} {a : Nat} {pc : Pc} (hq : ∀ i, s'.qjobs i = s.qjobs i)
    (hrun : (s'.pcAt a).runningQ = none ∨ ((s'.pcAt a).runningQ = pc.runningQ ∧ pc.stage ≤ (s'.pcAt a).stage)) : JobFlow s a pc s' := by
  refine ⟨fun j q hr => .inl ?_, fun q l' j hl hm => .inl ⟨l', hq q ▸ hl, hm⟩⟩
  rcases hrun with e | ⟨e, hs⟩
  · rw [e] at hr; cases hr
  · exact ⟨e ▸ hr, hs⟩

theorem JobFlow.goto {s X : State} {a : Nat} {pc pc' : Pc} (hq : ∀ i, X.qjobs i = s.qjobs i)
    (hrun : pc'.runningQ = none ∨ (pc'.runningQ = pc.runningQ ∧ pc.stage ≤ pc'.stage)) : JobFlow s a pc (X.goto a pc') := by
  refine .of_goto (fun j q hr => .inl ?_) (fun q l' j hl hm => .inl ⟨l', hq q ▸ hl, hm⟩)
  rcases hrun with e | ⟨e, hs⟩
  · rw [e] at hr; cases hr
  · exact ⟨e ▸ hr, hs⟩

theorem JobFlow.setAct {s X : State} {a : Nat} {pc : Pc} {v : Act} (hq : ∀ i, X.qjobs i = s.qjobs i) (hlt : a < X.acts.length)
    (hrun : v.pc.runningQ = none) : JobFlow s a pc (X.setAct a v) :=
  .keep hq (.inl (by rw [pcAt_setAct_self _ hlt]; exact hrun))

theorem JobFlow.take {s X : State} {a q j : Nat} {pc pc' : Pc} (hd : (s.dequeue q a).2 = some j) (hq : ∀ i, X.qjobs i = (s.dequeue q a).1.qjobs i)
    (hnew : pc'.runningQ = some (j, q)) : JobFlow s a pc (X.goto a pc') := by
  obtain ⟨v, rest, hv, hjobs, hX⟩ := dequeue_some hd
  have hl : s.qjobs q = some (j :: rest) := by rw [qjobs_of hv, hjobs]
  refine .of_goto (fun j' q' hr => ?_) (fun q' l' j' hl' hm => .inl ?_)
  · cases hnew.symm.trans hr
    exact .inr (.inl ⟨_, hl, List.mem_cons_self⟩)
  · rw [hq, hX, qjobs_setJobPh, qjobs_setQ_of hv] at hl'
    split at hl'
    · next e => cases hl'; exact ⟨_, e ▸ hl, List.mem_cons_of_mem _ hm⟩
    · exact ⟨l', hl', hm⟩

theorem JobFlow.requeue {s : State} {a q j : Nat} {pc pc' : Pc} (hpc : (∃ p, pc = .pdRequeue p q j) ∨ (∃ f l, pc = .dqRequeue f j l q))
    (hnew : pc'.runningQ = none) : JobFlow s a pc (((s.pushFront q j).setJobPh j .queued).goto a pc') := by
  refine .of_goto (fun j' q' hr => by rw [hnew] at hr; cases hr) (fun q' l' j' hl' hm => ?_)
  rw [qjobs_setJobPh, qjobs_pushFront] at hl'
  split at hl'
  · next e =>
    subst e
    cases hl0 : s.qjobs q' with
    | none => rw [hl0] at hl'; cases hl'
    | some l0 =>
      rw [hl0] at hl'; cases hl'
      rcases List.mem_cons.mp hm with rfl | hm0
      · exact .inr ⟨hnew, hpc.elim .inl (fun h => .inr (.inl h))⟩
      · exact .inl ⟨l0, rfl, hm0⟩
  · exact .inl ⟨l', hl', hm⟩

theorem JobFlow.push {s X : State} {a q : Nat} {v : JobQ} {pc pc' : Pc} (hv : s.qs[q]? = some v)
    (hq : ∀ i, X.qjobs i = if i = q then some (v.jobs ++ [s.jobs.length]) else s.qjobs i)
    (hnew : pc'.runningQ = none) : JobFlow s a pc (X.goto a pc') := by
  refine .of_goto (fun j' q' hr => by rw [hnew] at hr; cases hr) (fun q' l' j' hl' hm => ?_)
  rw [hq] at hl'
  split at hl'
  · next e =>
    cases hl'
    rcases List.mem_append.mp hm with hm0 | hm0
    · exact .inl ⟨v.jobs, e ▸ qjobs_of hv, hm0⟩
    · exact .inr ⟨hnew, .inr (.inr (by simp at hm0; omega))⟩
  · exact .inl ⟨l', hl', hm⟩

theorem JobFlow.create {s X : State} {a q : Nat} {pc pc' : Pc} (hq : ∀ i, X.qjobs i = s.qjobs i)
    (hnew : pc'.runningQ = some (s.jobs.length, q)) : JobFlow s a pc (X.goto a pc') :=
  .of_goto (fun j q' hr => by cases hnew.symm.trans hr; exact .inr (.inr (Nat.le_refl _)))
    (fun q l' j hl hm => .inl ⟨l', hq q ▸ hl, hm⟩)

theorem qjobs_of_set_keep {s X : State} {q : Nat} {v v' : JobQ} (hv : s.qs[q]? = some v) (hX : X.qs = s.qs.set q v') (hj : v'.jobs = v.jobs)
    (i : Nat) : X.qjobs i = s.qjobs i :=
  upd_same (qjobs_of_set hv hX) (by rw [hj, qjobs_of hv]) i

/-- after the job is dropped its runner has no job in hand: a caller's continuation is one of the two loops of `sync` -/
theorem runningQ_ctxReady {s : State} {a j : Nat} {act : Act} {c : Ctx} {k : Pc} (hw : WfInv s) (ha : s.acts[a]? = some act)
    (hpc : act.pc = .jobDrop j c k ∨ act.pc = .jobDropNotify j c k) : (ctxReady k c).runningQ = none := by
  have hwk := hw a
  rw [pcAt_of ha] at hwk
  rcases hpc with hpc | hpc <;> rw [hpc] at hwk <;> exact ctxReady_running hwk

theorem Step.jobFlow {s s' : State} {a : Nat} {act : Act} (hw : WfInv s) (ha : s.acts[a]? = some act) (hst : Step s a act s') :
    JobFlow s a act.pc s' := by
  have hlt : a < s.acts.length := lt_of_getElem?_some ha
  cases hst
  case rjDequeue hpc hd | pdDequeue hpc hd | dqDequeue hpc hd => exact .take hd (fun _ => rfl) rfl
  case rjDequeueNone hpc hd =>
    rw [dequeue_none hd]
    have hwk := hw a
    rw [pcAt_of ha, hpc] at hwk
    exact .goto (fun _ => rfl) (.inl (plainFor_running hwk))
  case pdDequeueNone hpc hd | dqDequeueNone hpc hd =>
    rw [dequeue_none hd]
    exact .goto (fun _ => rfl) (.inl rfl)
  case pdRequeue hpc => exact .requeue (.inl ⟨_, hpc⟩) rfl
  case dqRequeue hpc => exact .requeue (.inr ⟨_, _, hpc⟩) rfl
  case dsPushSchedule hpc hv _ | dsPushNone hpc hv _ | dsPushPanic hpc hv _ | sbPushIdle hpc hv _ | sbPush hpc hv _ =>
    exact .push hv (fun i => by rw [qjobs_setQ_of (s := (s.newJob _ _).1) hv]; rfl) rfl
  case sdPush q b hpc =>
    -- `sync` holds the queue (`HolderInv`), so the queue exists; if it did not the job would be in no list
    cases hv : s.qs[q]? with
    | none =>
      have e : (s.newJob q (.erasedDrain a b)).1.qs[q]? = none := hv
      exact .goto (fun i => by simp only [State.pushBack, e]; rfl) (.inl rfl)
    | some v =>
      have e : (s.newJob q (.erasedDrain a b)).1.qs[q]? = some v := hv
      exact .push hv (fun i => by simp only [State.pushBack, e]; rw [qjobs_setQ_of e]; rfl) rfl
  case syImmediate hpc hv _ | tsImmediate hpc hv _ => exact .create (fun i => qjobs_of_set_keep hv (by rfl) (by rfl) i) rfl
  case jobDrop hpc _ _ => exact .goto (fun _ => rfl) (.inl (runningQ_ctxReady hw ha (.inl hpc)))
  case jobDropNotify hpc _ _ => exact .goto (fun i => by simp) (.inl (runningQ_ctxReady hw ha (.inr hpc)))
  case jobAwaitPendingSlot hpc _ _ _ _ | jobAwaitPending hpc _ _ _ =>
    exact .goto (fun _ => rfl) (.inr ⟨by rw [hpc, runningQ_ctxPending]; rfl, by rw [hpc, stage_ctxPending]; exact Nat.le_refl _⟩)
  -- the job in hand is given up: the queue has panicked, or only the notification of the caller that waits for it is left to do
  case rjPendingPanic | rjPendingPanicNone => exact .goto (qjobs_of_set_keep (by assumption) (by rfl) (by rfl)) (.inl rfl)
  case rjParkCheckPanic | rjParkCheckPanicNone | jobDropBg => exact .goto (fun _ => rfl) (.inl rfl)
  case sdCheckRun | sbSteal => exact .goto (fun _ => rfl) (.inl rfl)
  case sdIdle | sbStealIdle | siIdle | dqSetWfw | dqSetWfp | dqIdle2 | dqIdle =>
    exact .goto (fun i => (qjobs_setHolder _ _ _ i).trans ((qjobs_setQState _ _ _ i).trans rfl)) (.inl rfl)
  case rqCs | wqCsResched | wqCs | wtCs | syDrain | syBackground | syPanic | tsPanic | sbReg | sbClaimed | sbClaim | rjPendingPark
      | rjPendingContinue | ptPopTake | ptPopSkip | pdPendingLeave | pdPending | pdExitLeave | pdExit | pfPollWait | pfPollDrain
      | pfPollPanic | fdDropHandBack =>
    exact .goto (qjobs_of_set_keep (by assumption) (by rfl) (by rfl)) (.inr ⟨‹act.pc = _› ▸ rfl, ‹act.pc = _› ▸ Nat.le_refl _⟩)
  case tsBusy => exact .setAct (qjobs_of_set_keep (by assumption) (by rfl) (by rfl)) hlt rfl
  case sbPrune => exact .keep (qjobs_of_set_keep (by assumption) (by simp; rfl) (by rfl)) (.inl (by rw [pcAt_setQ, pcAt_goto_self _ hlt]; rfl))
  case pfPollReady | pollReadySfSched | pollPendingOnce | sfPollQueue | sfPollSched | sfPollCompleted | sfBlockedOnce | dqCheckReady
      | dqCheck2Ready | fsTakeReady =>
    exact .setAct (fun _ => rfl) hlt rfl
  -- the job in hand reaches the next stage
  case jobStartPlain | jobStartDrain | jobStartBg | jobAwaitAfter | jobAwaitSlot | jobAwaitSusp | jobEnd | jobBodyDoneDrain | jobBodyDone
      | jobSignalWake | jobSignal =>
    exact .goto (fun _ => rfl) (.inr ⟨‹act.pc = _› ▸ rfl, ‹act.pc = _› ▸ Nat.le_succ _⟩)
  case rqNotify | sbWait | sbWaiting | jobStartFut | sfRecvReady =>
    exact .goto (fun i => by simp [State.qjobs]) (.inr ⟨‹act.pc = _› ▸ rfl, ‹act.pc = _› ▸ Nat.le_refl _⟩)
  all_goals exact .goto (fun _ => rfl) (.inr ⟨‹act.pc = _› ▸ rfl, ‹act.pc = _› ▸ Nat.le_refl _⟩)

theorem JobFlagInv.of_flow {F : Job → Bool} {n : Nat} {s s' : State} {a : Nat} (hn : 0 < n) (h : JobFlagInv F n s) (flow : JobFlow s a (s.pcAt a) s')
    (hoth : ∀ b, b ≠ a → (s'.pcAt b).runningQ = none ∨ s'.pcAt b = s.pcAt b)
    (hraise : ∀ j, s'.jobFlag F j = true → s.jobFlag F j = true ∨
      ((∀ b q, (s'.pcAt b).runningQ = some (j, q) → n ≤ (s'.pcAt b).stage) ∧ ∀ q l', s'.qjobs q = some l' → j ∉ l')) :
    JobFlagInv F n s' := by
  -- an activity at a requeue point has not reached stage `n`
  have early : ∀ j q, (s.pcAt a).runningQ = some (j, q) → (s.pcAt a).stage = 0 → s.jobFlag F j = false := by
    intro j q hr h0
    cases hx : s.jobFlag F j with
    | false => rfl
    | true => have := h.holders a j q hr hx; omega
  refine ⟨fun b j q hr hs => ?_, fun q l' j hl hm => ?_⟩
  · rcases hraise j hs with hs0 | ⟨hP, -⟩
    · by_cases hb : b = a
      · subst hb
        rcases flow.hand j q hr with ⟨h1, hst⟩ | ⟨l, hl, hm⟩ | hl
        · exact Nat.le_trans (h.holders b j q h1 hs0) hst
        · rw [h.queued q l j hl hm] at hs0; cases hs0
        · rw [jobFlag_fresh hl] at hs0; cases hs0
      · rcases hoth b hb with e | e
        · rw [e] at hr; cases hr
        · rw [e] at hr ⊢; exact h.holders b j q hr hs0
    · exact hP b q hr
  · cases hx : s'.jobFlag F j with
    | false => rfl
    | true =>
      exfalso
      rcases hraise j hx with hs0 | ⟨-, hL⟩
      · rcases flow.list q l' j hl hm with ⟨l, hl0, hm0⟩ | ⟨-, ⟨p, e⟩ | ⟨f, l, e⟩ | hl⟩
        · rw [h.queued q l j hl0 hm0] at hs0; cases hs0
        · rw [early j q (e ▸ rfl) (e ▸ rfl)] at hs0; cases hs0
        · rw [early j q (e ▸ rfl) (e ▸ rfl)] at hs0; cases hs0
        · rw [jobFlag_fresh hl] at hs0; cases hs0
      · exact hL q l' hl hm

/-- What an instance has to supply: the flag is raised only for the job in the mover's hand, which it had before or has just created,
by a step that reaches stage `n` (a pass over the rules). -/
structure JobFlagRules (F : Job → Bool) (n : Nat) : Prop where
  pos : 0 < n
  raise : ∀ {s a act s'}, s.acts[a]? = some act → Step s a act s' → ∀ j, s'.jobFlag F j = true → s.jobFlag F j = true ∨
    ∃ q, (s'.pcAt a).runningQ = some (j, q) ∧ n ≤ (s'.pcAt a).stage ∧ (act.pc.runningQ = some (j, q) ∨ s.jobs.length ≤ j)

theorem Step.jobFlagInv {F : Job → Bool} {n : Nat} (R : JobFlagRules F n) {s s' : State} {a : Nat} {act : Act} (hw : WfInv s) (hf : FullInv s)
    (h : JobFlagInv F n s) (ha : s.acts[a]? = some act) (hst : Step s a act s') : JobFlagInv F n s' := by
  have hpca := pcAt_of ha
  have flow := hpca ▸ hst.jobFlow hw ha
  have hoth : ∀ b, b ≠ a → (s'.pcAt b).runningQ = none ∨ s'.pcAt b = s.pcAt b :=
    fun _ hb => (hst.pcAt_ne hb).elim .inr (fun ⟨_, _, e⟩ => .inl (by rw [e]; rfl))
  refine h.of_flow R.pos flow hoth (fun j hj => (R.raise ha hst j hj).imp id ?_)
  rintro ⟨q, hq, hn, hprov⟩
  -- the job, which the mover had in hand or which is new, was in no other hand and in no list
  have excl : ∀ pq, s.jobPQ j = some pq → pq = (.held a, q) := by
    intro pq hpq
    rcases hprov with h1 | hl
    · exact Option.some.inj (hpq.symm.trans (hf.run1 a j q (hpca ▸ h1)))
    · exact absurd (lt_of_jobPQ hpq) (Nat.not_lt.mpr hl)
  refine ⟨fun b q' hr => ?_, fun q' l' hl hm => ?_⟩
  · by_cases hb : b = a
    · exact hb ▸ hn
    · rcases hoth b hb with e | e
      · rw [e] at hr; cases hr
      · rw [e] at hr; cases excl _ (hf.run1 b j q' hr); exact absurd rfl hb
  · rcases flow.list q' l' j hl hm with ⟨l, hl0, hm0⟩ | ⟨hnone, -⟩
    · cases excl _ (hf.queued q' l j hl0 hm0)
    · rw [hnone] at hq; cases hq

theorem Starts.runningQ {s s0 : State} {c : Call} {pc : Pc} {once : Bool} (h : Starts s c s0 pc once) : pc.runningQ = none := by
  cases h <;> rfl

theorem EnvStep.jobFlagInv {F : Job → Bool} {n : Nat} {s s' : State} {l : Label} (h : JobFlagInv F n s) (he : EnvStep s l s') : JobFlagInv F n s' :=
  h.same he.sameCore.qs he.sameCore.jobs (fun b => he.pcAt_rel
    (R := fun pc pc' => pc'.runningQ = none ∨ (pc'.runningQ = pc.runningQ ∧ pc.stage ≤ pc'.stage))
    ⟨fun _ => .inr ⟨rfl, Nat.le_refl _⟩, fun _ _ => .inr ⟨rfl, Nat.le_refl _⟩, fun _ _ _ => .inr ⟨rfl, Nat.le_refl _⟩,
     fun _ => .inl rfl, fun _ => .inl rfl, .inl rfl, fun hst => .inl hst.runningQ⟩ b)

theorem jobFlagInv_reachable {F : Job → Bool} {n : Nat} (R : JobFlagRules F n) {s : State} (hr : Reachable s) : JobFlagInv F n s :=
  Reachable.invariant (fun _ _ _ => .of_no_jobs rfl)
    (fun hr h ha _ hst => hst.jobFlagInv R (fullInv_reachable hr).1 (fullInv_reachable hr).2 h ha) (fun _ h he => he.jobFlagInv h) hr

end Desync
