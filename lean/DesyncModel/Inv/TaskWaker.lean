/-
Who is woken when a result arrives (C07, C08): the waker stored in a `SchedulerFuture`'s result slot, and the wakers a
`SyncFuture` registers on its `queue_ready` receiver and with the user future's event, are always the context waker of a
*polling task* — never a queue waker, a thread waker or a latch.  So `signal` (which takes the slot's waker and fires it) wakes
the task that is awaiting the future; it cannot, for instance, reschedule a queue in its place.
-/
import DesyncModel.Inv.StepTables

namespace Desync
open Gen

def Waker.isTask : Waker → Bool
  | .task _ => true
  | _ => false

theorem Waker.task_of_isTask {w : Waker} (h : w.isTask = true) : ∃ t, w = .task t := by
  cases w with
  | task t => exact ⟨t, rfl⟩
  | _ => cases h

/-- nothing, or a task's context waker -/
def OptTask (w : Option Waker) : Prop := ∀ x, w = some x → x.isTask = true

theorem optTask_none : OptTask none := fun x h => by cases h
theorem optTask_task (t : Nat) : OptTask (some (Waker.task t)) := fun x h => by cases h; rfl

def FutsOk (L : List Fut) : Prop := ∀ (f : Nat) (fu : Fut), L[f]? = some fu → OptTask fu.waker
def SfsOk (L : List SyncFut) : Prop := ∀ (u : Nat) (sf : SyncFut), L[u]? = some sf → OptTask sf.readyWaker ∧ OptTask sf.userReg

theorem FutsOk.set {L : List Fut} (h : FutsOk L) (f0 : Nat) (v : Fut) (hv : OptTask v.waker) : FutsOk (L.set f0 v) :=
  fun f fu hf => (getElem?_set_cases hf).elim (fun e => e.2 ▸ hv) (h f fu)

theorem FutsOk.append {L l : List Fut} (h : FutsOk L) (hl : ∀ x ∈ l, x.waker = none) : FutsOk (L ++ l) :=
  fun f fu hf => (getElem?_append_cases hf).elim (h f fu) (fun hm => hl fu hm.2 ▸ optTask_none)

theorem SfsOk.set {L : List SyncFut} (h : SfsOk L) (u0 : Nat) (v : SyncFut) (hv : OptTask v.readyWaker ∧ OptTask v.userReg) : SfsOk (L.set u0 v) :=
  fun u sf hu => (getElem?_set_cases hu).elim (fun e => e.2 ▸ hv) (h u sf)

theorem SfsOk.append {L l : List SyncFut} (h : SfsOk L) (hl : ∀ x ∈ l, x.readyWaker = none ∧ x.userReg = none) : SfsOk (L ++ l) :=
  fun u sf hu => (getElem?_append_cases hu).elim (h u sf) (fun hm => ⟨(hl sf hm.2).1 ▸ optTask_none, (hl sf hm.2).2 ▸ optTask_none⟩)

structure TaskWakerInv (s : State) : Prop where
  fut : FutsOk s.futs
  sf : SfsOk s.sfs

theorem OptTask.step {w0 w : Option Waker} {t : Nat} (h0 : OptTask w0) (hw : w = w0 ∨ w = none ∨ w = some (.task t)) : OptTask w := by
  rcases hw with rfl | rfl | rfl
  · exact h0
  · exact optTask_none
  · exact optTask_task t

theorem Step.taskWakerInv {s s' : State} {a : Nat} {act : Act} (h : TaskWakerInv s) (hst : Step s a act s') : TaskWakerInv s' := by
  refine ⟨?_, ?_⟩
  · rcases hst.futs_cases with e | ⟨f, fu, v, hf, e, -, hw, -⟩ <;> rw [e]
    · exact h.fut
    · exact h.fut.set f v ((h.fut f fu hf).step hw)
  · rcases hst.sfs_cases with e | ⟨u, sf, v, hu, e, -, hr, hg, -⟩ <;> rw [e]
    · exact h.sf
    · exact h.sf.set u v ⟨(h.sf u sf hu).1.step hr, (h.sf u sf hu).2.step hg⟩

theorem EnvStep.taskWakerInv {s s' : State} {l : Label} (h : TaskWakerInv s) (he : EnvStep s l s') : TaskWakerInv s' := by
  obtain ⟨lf, ls, ef, es, hf, hs⟩ := he.futs_sfs
  exact ⟨ef ▸ h.fut.append (fun x hx => (hf x hx).2), es ▸ h.sf.append (fun x hx => ⟨(hs x hx).1, (hs x hx).2.1⟩)⟩

theorem taskWakerInv_reachable {s : State} (hr : Reachable s) : TaskWakerInv s :=
  Reachable.invariant (fun _ _ _ => ⟨by simp [initStateP, initState, FutsOk], by simp [initStateP, initState, SfsOk]⟩)
    (fun _ h _ _ hst => hst.taskWakerInv h) (fun _ h he => he.taskWakerInv h) hr

end Desync
