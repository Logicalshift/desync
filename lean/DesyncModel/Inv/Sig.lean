/-
A job executes its signal step at most once (C07: the result of a future operation is handed over once; C03: no operation is
completed twice).  `sig` is a ghost flag of a job, set by the `jobSignal` step.  `SigInv` is `JobFlagInv Job.sig 2`: a job whose flag
is set is in no queue's list, and whoever has it in hand is past the signal (at `jobSigDrop` / `jobDrop`, possibly inside the
wake-up and reschedule calls made from there).  So an activity standing at `jobSignal j` finds `sig = false`.
-/
import DesyncModel.Inv.Flag
namespace Desync
open Gen

def State.jobSig (s : State) (j : Nat) : Bool := match s.jobs[j]? with | some b => b.sig | none => false

theorem jobSig_of {s : State} {j : Nat} {b : Job} (h : s.jobs[j]? = some b) : s.jobSig j = b.sig := jobFlag_of h

@[simp] theorem jobSig_setQ (s : State) (q : Nat) (v : JobQ) (i : Nat) : (s.setQ q v).jobSig i = s.jobSig i := rfl
@[simp] theorem jobSig_setGate (s : State) (g : Nat) (v : Gate) (i : Nat) : (s.setGate g v).jobSig i = s.jobSig i := rfl
@[simp] theorem jobSig_setSf (s : State) (u : Nat) (v : SyncFut) (i : Nat) : (s.setSf u v).jobSig i = s.jobSig i := rfl
@[simp] theorem jobSig_setPThr (s : State) (p : Nat) (v : PThr) (i : Nat) : (s.setPThr p v).jobSig i = s.jobSig i := rfl
@[simp] theorem jobSig_takeReady (s : State) (w a : Nat) (i : Nat) : (s.takeReady w a).jobSig i = s.jobSig i := rfl
@[simp] theorem jobSig_dropReady (s : State) (w : Nat) (i : Nat) : (s.dropReady w).jobSig i = s.jobSig i := rfl

/-- the innermost job program counter is past the signal step -/
def Pc.postSig : Pc → Bool
  | .begin _ k | .body _ k => k.postSig
  | .stReap k | .stScanLock k | .stScan _ k | .stScanHeld _ k | .stScanRel _ _ k
  | .stScanUnlock _ k | .stReadMax k | .stSpawn _ k | .stSpawnRel k => k.postSig
  | .rqCs _ k | .rqNotifyAcq _ _ _ k | .rqNotify _ _ _ k | .rqNotifyRel _ _ _ k | .rqPush _ k => k.postSig
  | .resumeSend _ k | .waking _ k | .openSend _ k | .wqCs _ k | .wtCs _ _ k | .wtUnpark _ k | .lwCs _ k | .dwCs _ k => k.postSig
  | .jobSigDrop _ _ _ | .jobDrop _ _ _ => true
  | .pfPollRel _ next => next.postSig
  | .dqWakeWith _ _ _ k => k.postSig
  | .fdDrop _ k => k.postSig
  | _ => false

@[simp] theorem postSig_ctxPending (j : Nat) (k : Pc) (c : Ctx) : (ctxPending j k c).postSig = false := by cases c <;> rfl

structure SigInv (s : State) : Prop where
  /-- whoever has a signalled job in hand is past the signal step -/
  holders : ∀ a j q, (s.pcAt a).runningQ = some (j, q) → s.jobSig j = true → (s.pcAt a).postSig = true
  /-- a signalled job is never (back) in a queue -/
  queued : ∀ q l j, s.qjobs q = some l → j ∈ l → s.jobSig j = false

theorem postSig_eq (pc : Pc) : pc.postSig = decide (2 ≤ pc.stage) := by
  -- a program counter that both look through: the induction hypothesis; any other: by computation
  induction pc <;> first | assumption | rfl

theorem SigInv.flag {s : State} : SigInv s ↔ JobFlagInv Job.sig 2 s :=
  ⟨fun h => ⟨fun a j q hr hs => of_decide_eq_true ((postSig_eq _).symm.trans (h.holders a j q hr hs)), h.queued⟩,
   fun h => ⟨fun a j q hr hs => (postSig_eq _).trans (decide_eq_true (h.holders a j q hr hs)), h.queued⟩⟩

theorem Step.sig_raise {s s' : State} {a : Nat} {act : Act} (ha : s.acts[a]? = some act) (hst : Step s a act s') (j : Nat)
    (hj : s'.jobFlag Job.sig j = true) : s.jobFlag Job.sig j = true ∨
      ∃ q, (s'.pcAt a).runningQ = some (j, q) ∧ 2 ≤ (s'.pcAt a).stage ∧ (act.pc.runningQ = some (j, q) ∨ s.jobs.length ≤ j) := by
  have hlt : a < s.acts.length := lt_of_getElem?_some ha
  cases hst
  case jobSignalWake j0 c k jb _ _ _ hpc hjb _ _ _ | jobSignal j0 c k jb _ _ hpc hjb _ _ _ =>
    rw [jobFlag_set hjb (by simp [State.setJob]; rfl)] at hj
    split at hj
    · next e =>
      exact .inr ⟨c.q, by rw [pcAt_goto_self _ (by exact hlt), e]; rfl, by rw [pcAt_goto_self _ (by exact hlt)]; exact Nat.le_refl 2, .inl (by rw [hpc, e]; rfl)⟩
    · exact .inl hj
  -- another field of a job is rewritten
  case jobStartPlain | jobStartDrain | jobStartBg | jobStartFut | jobStartSlotWake | jobStartSlot | jobStartSusp | jobAwaitAfter
      | jobBodyDoneDrain | jobBodyDoneAfter | jobBodyDone | jobEnd | jobDropBg | jobDrop | siIdle | rjPendingPanic | rjParkCheckPanic
      | jobAwaitPending | openSendJobWake | openSendJob | resumeSendWake | resumeSend =>
    exact .inl ((jobFlag_set_keep (by assumption) (by simp [State.setJob]; rfl) (by rfl) j).symm.trans hj)
  -- a new job is unsignalled
  case dsPushSchedule | dsPushNone | dsPushPanic | syImmediate | tsImmediate | sdPush | sbPushIdle | sbPush =>
    exact .inl ((jobFlag_append_keep (by simp [State.newJob]; rfl) (by rfl) j).symm.trans hj)
  case rjDequeue | rjDequeueNone | pdDequeue | pdDequeueNone | dqDequeue | dqDequeueNone =>
    exact .inl ((jobFlag_dequeue (fun _ _ => rfl) s _ a j).symm.trans (jobFlag_of_goto hj rfl))
  case pdRequeue | dqRequeue =>
    exact .inl (((jobFlag_setJobPh (fun _ _ => rfl) _ _ _ j).trans (jobFlag_same (jobs_pushFront _ _ _) j)).symm.trans (jobFlag_of_goto hj rfl))
  case rqNotify | jobDropNotify | sbWait | sbWaiting | sfRecvReady | sdIdle | sbStealIdle | dqSetWfw | dqSetWfp | dqIdle2 | dqIdle | sbPrune =>
    exact .inl ((jobFlag_same (by simp) j).symm.trans hj)
  case tsBusy | pfPollReady | pollReadySfSched | pollPendingOnce | sfPollQueue | sfPollSched | sfPollCompleted | sfBlockedOnce | dqCheckReady
      | dqCheck2Ready | fsTakeReady =>
    exact .inl hj
  all_goals exact .inl (jobFlag_of_goto hj rfl)

theorem sigInv_reachable {s : State} (hr : Reachable s) : SigInv s := SigInv.flag.mpr (jobFlagInv_reachable ⟨Nat.zero_lt_succ 1, Step.sig_raise⟩ hr)

/-- **A job is signalled at most once**: an activity that stands at the signal step of job `j` finds the job unsignalled, in
every reachable state — whichever thread runs the job, however often it was suspended, requeued and taken over. -/
theorem signal_at_most_once {s : State} (hr : Reachable s) {a j : Nat} {c : Ctx} {k : Pc} {jb : Job}
    (hpc : s.pcAt a = .jobSignal j c k) (hj : s.jobs[j]? = some jb) : jb.sig = false := by
  have h := sigInv_reachable hr
  cases hx : jb.sig with
  | false => rfl
  | true =>
    have := h.holders a j c.q (by rw [hpc]; rfl) (by rw [jobSig_of hj]; exact hx)
    rw [hpc] at this
    cases this

/-- a signalled job is in no queue: it can never be run (and so never be signalled) again -/
theorem signalled_job_not_queued {s : State} (hr : Reachable s) {q j : Nat} {v : JobQ} {jb : Job}
    (hv : s.qs[q]? = some v) (hm : j ∈ v.jobs) (hj : s.jobs[j]? = some jb) : jb.sig = false := by
  have := (sigInv_reachable hr).queued q v.jobs j (qjobs_of hv) hm
  rwa [jobSig_of hj] at this

/-! `SigInv` across the post-state of the two rules that create an immediate job, written out; not used by the step theorem. -/

theorem SigInv.immediate {s : State} {a q : Nat} {b : Body} {st : QState} {v : JobQ} (h : SigInv s) (hv : s.qs[q]? = some v) :
    SigInv (((({ (s.setQ q { v with state := st }) with jobs := (s.setQ q { v with state := st }).jobs ++ [⟨q, .immediate a b, .held a, true, false, none, false⟩] } : State).setHolder q (some a)).goto a
      (.begin b (.siIdle q (s.setQ q { v with state := st }).jobs.length)))) := by
  refine SigInv.flag.mpr ((SigInv.flag.mp h).of_flow (Nat.zero_lt_succ 1) (.create (fun i => qjobs_of_set_keep hv (by rfl) (by rfl) i) rfl)
    (fun b hb => .inr (pcAt_goto_ne _ hb)) (fun j hj => .inl ?_))
  exact (jobFlag_append_keep (nj := ⟨q, .immediate a b, .held a, true, false, none, false⟩) rfl rfl j).symm.trans (jobFlag_of_goto hj rfl)

end Desync
