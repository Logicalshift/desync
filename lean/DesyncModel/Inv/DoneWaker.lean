/-
The waker the slot job of `future_sync` leaves on the `task_finished` channel is for the sync-future's own queue (C08).  While the
user's future runs, the slot job is suspended on the `task_finished` receiver with its context's waker registered there
(`SyncFut.doneWaker`): the `WakeQueue` waker of the sync-future's queue, a `WakeThread` waker for that queue, or a latch.  So when
the user future completes — or the `SyncFuture` is dropped, which drops the sender — the wake-up goes to the queue that holds the
slot, and the slot is released on the right object.
-/
import DesyncModel.Inv.Kind
import DesyncModel.Inv.Reg

namespace Desync
open Gen

def DoneOk (L : List SyncFut) : Prop := ∀ (u : Nat) (sf : SyncFut) (w : Waker), L[u]? = some sf → sf.doneWaker = some w → w.forQ sf.q = true

theorem DoneOk.set {L : List SyncFut} (h : DoneOk L) (u0 : Nat) (v : SyncFut) (hv : ∀ w, v.doneWaker = some w → w.forQ v.q = true) :
    DoneOk (L.set u0 v) :=
  fun u x w hu => (getElem?_set_cases hu).elim (fun e => e.2 ▸ hv w) (h u x w)

theorem DoneOk.append {L l : List SyncFut} (h : DoneOk L) (hl : ∀ x ∈ l, x.doneWaker = none) : DoneOk (L ++ l) :=
  fun u sf w hu hw => (getElem?_append_cases hu).elim (fun hu => h u sf w hu hw) (fun hm => nomatch (hl sf hm.2).symm.trans hw)

/-- Every rule but one leaves the waker on `task_finished` alone or takes it out.  The one is the poll that leaves it: it is the
polling context's own waker, the context works for the slot job's queue, and the slot job sits in its sync-future's queue. -/
theorem Step.doneOk {s s' : State} {a : Nat} {act : Act} (h : DoneOk s.sfs) (hf : FullInv s) (hk : KindInv s)
    (ha : s.acts[a]? = some act) (hst : Step s a act s') : DoneOk s'.sfs := by
  rcases hst.sfs_cases with e | ⟨u, sf, v, hu, e, ⟨-, hq, -, -⟩, -, -, hd⟩ <;> rw [e]
  · exact h
  · refine h.set u v (fun w hw => ?_)
    rcases hd with hd | hd | ⟨j, c, k, jb, r, hpc, hjb, hkind, hd⟩
    · rw [hq]; exact h u sf w hu (hd ▸ hw)
    · rw [hd] at hw; cases hw
    · have hsq : sf.q = jb.q := by
        have hko := hk.jobs j jb hjb
        rw [hkind] at hko
        simpa only [sfQ, hu, Option.map_some, Option.some.injEq] using hko.2
      rw [hd] at hw; cases hw
      rw [hq, hsq, hf.jobAwait_q ha hpc hjb]; exact forQ_ctxWaker _ c

theorem EnvStep.doneOk {s s' : State} {l : Label} (h : DoneOk s.sfs) (he : EnvStep s l s') : DoneOk s'.sfs := by
  obtain ⟨lf, ls, -, es, -, hs⟩ := he.futs_sfs
  exact es ▸ h.append (fun x hx => (hs x hx).2.2.1)

theorem doneOk_reachable {s : State} (hr : Reachable s) : DoneOk s.sfs :=
  Reachable.invariant (P := fun s => DoneOk s.sfs) (fun _ _ _ u sf w hu => by simp [initStateP, initState] at hu)
    (fun hr h ha _ hst => hst.doneOk h (fullInv_reachable hr).2 (kindInv_reachable hr) ha) (fun _ h he => he.doneOk h) hr

end Desync
