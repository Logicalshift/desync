/-
The waker a suspended operation has registered with the event it awaits belongs to the operation's *own* queue (C06).  When a
future job returns `Pending`, the poll has registered the context's waker with the awaited event (`Job.reg`): the queue's `WakeQueue`
waker on a pool thread, the caller's `WakeThread` waker inside `sync`, the `DrainWaker` latch in a polling task.  A registered queue
or thread waker names the queue the job was scheduled on, so the wake-up of a suspended operation can only land on its own queue,
never on another object's.  (Where a latch's wake-up goes is `ShapeInv`.)
-/
import DesyncModel.Inv.JobReach
import DesyncModel.Inv.StepTables

namespace Desync
open Gen

/-- a waker that may be registered for a job of queue `q` -/
def Waker.forQ (q : Nat) : Waker → Bool
  | .queue q' => q' == q
  | .thread q' _ => q' == q
  | .latch _ => true
  | _ => false

theorem Waker.forQ_cases {q : Nat} {w : Waker} (h : w.forQ q = true) : w = .queue q ∨ (∃ t, w = .thread q t) ∨ (∃ l, w = .latch l) := by
  cases w with
  | queue q' => exact .inl (by rw [eq_of_beq h])
  | thread q' t => exact .inr (.inl ⟨t, by rw [eq_of_beq h]⟩)
  | latch l => exact .inr (.inr ⟨l, rfl⟩)
  | _ => cases h

def RegInv (s : State) : Prop :=
  ∀ (j : Nat) (jb : Job) (w : Waker), s.jobs[j]? = some jb → jb.reg = some w → w.forQ jb.q = true

def RegMono (s X : State) : Prop :=
  ∀ (j : Nat) (jb' : Job), X.jobs[j]? = some jb' → jb'.reg = none ∨ ∃ jb, s.jobs[j]? = some jb ∧ jb'.q = jb.q ∧ jb'.reg = jb.reg

theorem RegInv.mono {s X : State} (h : RegInv s) (hm : RegMono s X) : RegInv X := by
  intro j jb' w hj hr
  rcases hm j jb' hj with h1 | ⟨jb, h1, h2, h3⟩
  · rw [h1] at hr; cases hr
  · rw [h2]; exact h j jb w h1 (by rw [← h3]; exact hr)

theorem RegMono.same {s X : State} (h : X.jobs = s.jobs) : RegMono s X := fun j jb hj => Or.inr ⟨jb, by rw [← h]; exact hj, rfl, rfl⟩

theorem RegMono.setJob {s X : State} {j : Nat} {b v : Job} (e : X.jobs = s.jobs.set j v) (hb : s.jobs[j]? = some b) (hq : v.q = b.q)
    (hr : v.reg = b.reg ∨ v.reg = none) : RegMono s X := by
  intro j' jb hj
  rcases getElem?_set_cases (e ▸ hj) with ⟨rfl, rfl⟩ | hj
  · exact hr.elim (fun h1 => .inr ⟨b, hb, hq, h1⟩) .inl
  · exact .inr ⟨jb, hj, rfl, rfl⟩

theorem RegMono.append {s X : State} {l : List Job} (hX : X.jobs = s.jobs ++ l) (hl : ∀ x ∈ l, x.reg = none) : RegMono s X :=
  fun _ jb hj => (getElem?_append_cases (hX ▸ hj)).elim (fun hj => .inr ⟨jb, hj, rfl, rfl⟩) (fun hm => .inl (hl jb hm.2))

theorem forQ_ctxWaker (t : Nat) (c : Ctx) : (ctxWaker t c).forQ c.q = true := by
  cases c <;> simp [ctxWaker, Waker.forQ, Ctx.q]

/-- Every rule but one leaves each job its registration or clears it.  The one is the poll that registers a waker: it is the
context's own waker. -/
theorem Step.regInv {s s' : State} {a : Nat} {act : Act} (h : RegInv s) (hf : FullInv s) (ha : s.acts[a]? = some act)
    (hst : Step s a act s') : RegInv s' := by
  rcases hst.jobs_cases with e | ⟨j, b, v, hb, e, hq, -, -, -, hr | ⟨hr, -⟩ | ⟨c, k, hpc, hr⟩⟩ | ⟨n, e, hn, -⟩
  · exact h.mono (.same e)
  · exact h.mono (.setJob e hb hq (.inl hr))
  · exact h.mono (.setJob e hb hq (.inr hr))
  · intro j' jb' w hj' hw
    rcases getElem?_set_cases (e ▸ hj') with ⟨-, rfl⟩ | hj'
    · cases hr.symm.trans hw
      rw [hq, hf.jobAwait_q ha hpc hb]; exact forQ_ctxWaker _ c
    · exact h j' jb' w hj' hw
  · exact h.mono (.append e (by simp [hn]))

theorem regInv_reachable {s : State} (hr : Reachable s) : RegInv s :=
  Reachable.invariant (fun _ _ _ j jb w hj => by simp [initStateP, initState] at hj)
    (fun hr h ha _ hst => hst.regInv h (fullInv_reachable hr).2 ha) (fun _ h he => h.mono (.same he.sameCore.jobs)) hr

/-! `RegMono` under single updates; `Step.regInv` needs none of these. -/

theorem RegMono.dequeue (s : State) (q a : Nat) : RegMono s (s.dequeue q a).1 := by
  rcases s.jobs_dequeue_cases q a with e | ⟨j, b, hb, e⟩
  · exact .same e
  · exact .setJob e hb rfl (.inl rfl)

theorem RegMono.setAct_of {s Y : State} {a : Nat} {v : Act} (h : RegMono s Y) : RegMono s (Y.setAct a v) := h

theorem RegMono.setQ_of {s Y : State} {q : Nat} {v : JobQ} (h : RegMono s Y) : RegMono s (Y.setQ q v) := h

end Desync
