/-
The run-right protocol as a transition relation.  `QEffect s a s'` says what an internal step of activity `a` does to the
state words of the queues, to the ghost `holder` field and to the run rights `a` claims by its program counter: nothing, or
it rewrites the word of one queue in one of three roles.  `Step.qeffect` shows that every rule of `Step` is one of these; the
run-right invariant, its converse (no orphaned queue) and the absorbing `panicked` state are then read off the four cases.
-/
import DesyncModel.Inv.Holder
import DesyncModel.Inv.StepFacts
import DesyncModel.Inv.QSt
import DesyncModel.Tables.Moves

namespace Desync
open Gen

/-- a rewrite of a state word under which the run right can stay where it is: a queue somebody runs is still run, one nobody runs
still is not, and `panicked` is not left -/
def QState.keeps (st st' : QState) : Prop := st'.held = st.held ∧ (st = .panicked → st' = .panicked)

inductive QEffect (s : State) (a : Nat) (s' : State) : Prop
  /-- no state word changes and the run right stays where it is -/
  | frame (hq : ∀ q, s'.qSt q = s.qSt q) (hho : s'.holder = s.holder) (hmine : ∀ q, (s'.pcAt a).holds q = (s.pcAt a).holds q)
  /-- the word of `q0` is rewritten — by a table applied in passing, or by the owner's own table in a branch in which it goes on
  running the queue — and whoever has the run right keeps it -/
  | keep {q0 : Nat} {st st' : QState} (hb : s.qSt q0 = some st) (ha : s'.qSt q0 = some st') (hoth : ∀ q, q ≠ q0 → s'.qSt q = s.qSt q)
      (hk : st.keeps st') (hho : s'.holder = s.holder) (hmine : ∀ q, (s'.pcAt a).holds q = (s.pcAt a).holds q)
  /-- an entry table grants `a`, which held nothing, the run right of `q0` -/
  | acquire {q0 : Nat} {st : QState} (hb : s.qSt q0 = some st) (ha : s'.qSt q0 = some .running) (hoth : ∀ q, q ≠ q0 → s'.qSt q = s.qSt q)
      (hg : st.grantable = true) (hho : s'.holder = s.holder.set q0 (some a)) (hold : ∀ q, (s.pcAt a).holds q = false)
      (hnew : ∀ q, (s'.pcAt a).holds q = (q0 == q))
  /-- the owner writes the state it leaves `q0` in and gives the run right up -/
  | release {q0 : Nat} {st' : QState} (ha : s'.qSt q0 = some st') (hoth : ∀ q, q ≠ q0 → s'.qSt q = s.qSt q)
      (hidle : st'.held = false) (hho : s'.holder = s.holder.set q0 none) (hold : ∀ q, (s.pcAt a).holds q = (q0 == q))
      (hnew : ∀ q, (s'.pcAt a).holds q = false)

theorem QState.keeps_refl (st : QState) : st.keeps st := ⟨rfl, id⟩
/-- an entry table that does not grant the run right leaves the word alone -/
theorem QState.keeps.of_entry {c G : Prop} [Decidable c] {st st' : QState} (e : if c then G else st' = st) (hc : ¬ c) : st.keeps st' :=
  (if_neg hc).mp e ▸ keeps_refl st

theorem QState.schedules_keeps {st st' : QState} (h : st.schedules st' = true) : st.keeps st' := by
  rcases Bool.or_eq_true_iff.mp h with e | e
  · exact eq_of_beq e ▸ keeps_refl st
  · split at e
    · exact ⟨rfl, nofun⟩
    · cases e

theorem QState.wakes_keeps {st st' : QState} (h : st.wakes st' = true) : st.keeps st' := by
  rcases Bool.or_eq_true_iff.mp h with e | e
  · exact eq_of_beq e ▸ keeps_refl st
  · split at e
    · exact ⟨rfl, nofun⟩
    · exact ⟨rfl, nofun⟩
    · exact ⟨rfl, nofun⟩
    · exact ⟨rfl, nofun⟩
    · cases e

theorem QState.grantable_free {st : QState} (h : st.grantable = true) : st.held = false ∧ st ≠ .panicked := by
  cases st <;> simp_all [QState.grantable, QState.held]

/-- where the owner leaves its queue (`release` above): the words other than the one it writes are those of `Y` -/
theorem qSt_of_left {s Y : State} {a q i : Nat} {pc : Pc} {st x : QState}
    (h : (((Y.setQState q st).setHolder q none).goto a pc).qSt i = some x) (hq : ∀ i, Y.qSt i = s.qSt i) (hne : st ≠ x) : s.qSt i = some x := by
  simp only [qSt_goto, qSt_setHolder] at h
  exact hq i ▸ (qSt_setQState_at h).resolve_left fun e => hne e.2.symm

theorem QEffect.of_keep {s X : State} {a q0 : Nat} {v v' : JobQ} (hv : s.qs[q0]? = some v) (hqs : X.qs = s.qs.set q0 v')
    (hk : v.state.keeps v'.state) (hho : X.holder = s.holder) (hmine : ∀ q, (X.pcAt a).holds q = (s.pcAt a).holds q) : QEffect s a X :=
  .keep (qSt_of hv) (by rw [qSt_of_set hv hqs]; simp) (fun q hq => by rw [qSt_of_set hv hqs]; simp [hq]) hk hho hmine

theorem QEffect.qs_length {s s' : State} {a : Nat} (he : QEffect s a s') (h : HolderInv s) : s'.qs.length = s.qs.length := by
  refine qs_length_of_qSt fun q => ?_
  have two : ∀ {q0 : Nat}, (∀ q, q ≠ q0 → s'.qSt q = s.qSt q) → (s'.qSt q0).isSome = (s.qSt q0).isSome → (s'.qSt q).isSome = (s.qSt q).isSome := by
    intro q0 ho h0
    by_cases e : q = q0
    · rw [e, h0]
    · rw [ho q e]
  cases he with
  | frame hq => rw [hq]
  | keep hb ha ho => exact two ho (by rw [ha, hb]; rfl)
  | acquire hb ha ho => exact two ho (by rw [ha, hb]; rfl)
  | @release q0 _ ha ho _ _ hold =>
    -- the owner of a run right owns it of a queue that exists
    have hq0 : q0 < s.qs.length := by rw [← h.len]; exact lt_of_getElem?_some ((h.iff a q0).mp (by rw [hold]; simp))
    exact two ho (by rw [ha]; simp [State.qSt, hq0])

theorem HolderInv.of_qeffect {s s' : State} {a : Nat} (h : HolderInv s)
    (hoth : ∀ b, b ≠ a → ∀ q, (s'.pcAt b).holds q = (s.pcAt b).holds q) (he : QEffect s a s') : HolderInv s' := by
  have hlen : s'.qs.length = s.qs.length := he.qs_length h
  have hpc : ∀ b q, (s'.pcAt b).holds q = if a = b then (s'.pcAt a).holds q else (s.pcAt b).holds q := fun b q => by
    by_cases e : a = b
    · subst e; simp
    · simp [e, hoth b (Ne.symm e)]
  have same : (∀ q, (s'.pcAt a).holds q = (s.pcAt a).holds q) → ∀ b q, (s'.pcAt b).holds q = (s.pcAt b).holds q := fun hmine b q => by
    rw [hpc]; split
    · next e => rw [← e, hmine]
    · rfl
  -- where the word is as it was, a state that was held still is
  have old : ∀ (q : Nat) (v' : JobQ), s'.qSt q = s.qSt q → s'.qs[q]? = some v' →
      ∃ v, s.qs[q]? = some v ∧ (v.state.held = true → v'.state.held = true) := fun q v' hq hv' => by
    obtain ⟨v, hv, e⟩ := qSt_some (hq ▸ qSt_of hv'); exact ⟨v, hv, e ▸ id⟩
  cases he with
  | frame hq hho hmine => exact h.keep (same hmine) hho hlen fun q v' => old q v' (hq q)
  | @keep q0 st st' hb ha ho hk hho hmine =>
    refine h.keep (same hmine) hho hlen fun q v' hv' => ?_
    by_cases e : q = q0
    · subst e
      obtain ⟨v, hv, rfl⟩ := qSt_some hb
      exact ⟨v, hv, by rw [← hk.1, Option.some.inj ((qSt_of hv').symm.trans ha)]; exact id⟩
    · exact old q v' (ho q e) hv'
  | @acquire q0 st hb ha ho hg hho hold hnew =>
    obtain ⟨v, hv, rfl⟩ := qSt_some hb
    refine h.update q0 (some a) hpc hho hlen (lt_of_getElem?_some hv) (.inr rfl) (fun q => ?_) (.inl (h.free hv (QState.grantable_free hg).1))
      (fun _ v' hv' => by rw [Option.some.inj ((qSt_of hv').symm.trans ha)]; rfl) (fun q v' hne => old q v' (ho q hne))
    rw [hnew, hold]
    by_cases e : q = q0
    · simp [e]
    · simp [e, Ne.symm e]
  | @release q0 st' ha ho hidle hho hold hnew =>
    have hmine := (h.iff a q0).mp (by rw [hold]; simp)
    have hq0 : q0 < s.qs.length := by rw [← h.len]; exact lt_of_getElem?_some hmine
    refine h.update q0 none hpc hho hlen hq0 (.inl rfl) (fun q => ?_) (.inr hmine) (fun e => nomatch e) (fun q v' hne => old q v' (ho q hne))
    rw [hnew, hold]
    by_cases e : q = q0
    · simp [e]
    · simp [e, Ne.symm e]

/-- the owner's tables: a branch in which it goes on running the queue keeps the word as the run right needs it, a branch in
which it lets go leaves the queue in a state nobody runs it in -/
theorem drainPending_release (st : QState) : if (drainPending st).2 then (drainPending st).1.held = false else st.keeps (drainPending st).1 := by
  cases st <;> simp [drainPending, QState.held, QState.keeps]
theorem drainExit_release (st : QState) (e : Bool) : if (drainExit st e).2 then (drainExit st e).1.held = false else st.keeps (drainExit st e).1 := by
  cases st <;> cases e <;> simp [drainExit, QState.held, QState.keeps]
theorem runOnePending_keeps (st : QState) : st.keeps (runOnePending st).1 := by
  cases st <;> simp [runOnePending, QState.held, QState.keeps]

/-! Most rules' post-state is `Y.goto a pc'`, `Y` holding the rule's writes.  These lemmas read the effect off that shape; for most
rules their premises — what `Y` did to the state words and to `holder`, the run rights the two program counters claim — hold by
computation (`rfl`). -/

section
variable {s Y : State} {a : Nat} {act : Act} {pc pc' : Pc} (ha : s.acts[a]? = some act) (hpc : act.pc = pc)
  (hlt : a < (Y.goto a pc').acts.length)
include ha hpc hlt

theorem QEffect.goto (hq : ∀ q, Y.qSt q = s.qSt q) (hho : Y.holder = s.holder) (hmine : pc'.holds = pc.holds) : QEffect s a (Y.goto a pc') :=
  .frame (fun q => (qSt_goto _ _ _ q).trans (hq q)) ((holder_goto _ _ _).trans hho) (fun q => by rw [pcAt_goto_of_lt hlt, pcAt_of ha, hpc, hmine])

variable {q0 : Nat} {v v' : JobQ} (hv : s.qs[q0]? = some v) (hqs : Y.qs = s.qs.set q0 v')
include hv hqs

theorem QEffect.keep_goto (hk : v.state.keeps v'.state) (hho : Y.holder = s.holder) (hmine : pc'.holds = pc.holds) : QEffect s a (Y.goto a pc') :=
  .of_keep hv ((qs_goto _ _ _).trans hqs) hk ((holder_goto _ _ _).trans hho) (fun q => by rw [pcAt_goto_of_lt hlt, pcAt_of ha, hpc, hmine])

theorem QEffect.acquire_goto (hg : v.state.grantable = true ∧ v'.state = .running) (hho : Y.holder = s.holder.set q0 (some a))
    (hold : pc.holds = fun _ => false) (hnew : pc'.holds = (q0 == ·)) : QEffect s a (Y.goto a pc') := by
  have hX := qSt_of_set (X := Y.goto a pc') hv ((qs_goto _ _ _).trans hqs)
  exact .acquire (qSt_of hv) (by rw [hX, ← hg.2]; simp) (fun q hq => by rw [hX]; simp [hq]) hg.1 ((holder_goto _ _ _).trans hho)
    (fun q => by rw [pcAt_of ha, hpc, hold]) (fun q => by rw [pcAt_goto_of_lt hlt, hnew])

theorem QEffect.release_goto (hidle : v'.state.held = false) (hho : Y.holder = s.holder.set q0 none)
    (hold : pc.holds = (q0 == ·)) (hnew : pc'.holds = fun _ => false) : QEffect s a (Y.goto a pc') := by
  have hX := qSt_of_set (X := Y.goto a pc') hv ((qs_goto _ _ _).trans hqs)
  exact .release (by rw [hX]; simp) (fun q hq => by rw [hX]; simp [hq]) hidle ((holder_goto _ _ _).trans hho)
    (fun q => by rw [pcAt_of ha, hpc, hold]) (fun q => by rw [pcAt_goto_of_lt hlt, hnew])

end

/-- the owner writes the word it leaves `q` with; that it owns `q` says that `q` exists -/
theorem QEffect.leave_goto {s Z : State} {a q : Nat} {act : Act} {pc pc' : Pc} {st : QState} (h : HolderInv s) (ha : s.acts[a]? = some act)
    (hpc : act.pc = pc) (hlt : a < (((Z.setQState q st).setHolder q none).goto a pc').acts.length) (hZq : Z.qs = s.qs)
    (hZh : Z.holder = s.holder) (hidle : st.held = false) (hold : pc.holds = (q == ·)) (hnew : pc'.holds = fun _ => false) :
    QEffect s a (((Z.setQState q st).setHolder q none).goto a pc') := by
  obtain ⟨-, v, hv⟩ := h.mine (q := q) ha (by rw [hpc, hold]; exact beq_self_eq_true q)
  exact .release_goto ha hpc hlt hv (qs_setQState_of st hZq hv) hidle (by simp [hZh]) hold hnew

theorem Step.qeffect {s s' : State} {a : Nat} {act : Act} (h : HolderInv s) (ha : s.acts[a]? = some act) (hst : Step s a act s') :
    QEffect s a s' := by
  have hlt := hst.lt_acts ha
  cases hst
  -- tables applied in passing
  case dsPushSchedule hpc hv _ | dsPushNone hpc hv _ | dsPushPanic hpc hv _ =>
    exact .keep_goto ha hpc hlt hv rfl (QState.schedules_keeps (desyncPush_schedules _)) rfl rfl
  case rqCs hpc hv => exact .keep_goto ha hpc hlt hv rfl (QState.schedules_keeps (reschedule_schedules _ _)) rfl rfl
  case wqCsResched hpc hv _ | wqCs hpc hv _ => exact .keep_goto ha hpc hlt hv rfl (QState.wakes_keeps (wakeQueue_wakes _)) rfl rfl
  case wtCs hpc hv => exact .keep_goto ha hpc hlt hv rfl (QState.wakes_keeps (wakeThread_wakes _)) rfl rfl
  case fdDropHandBack hpc _ hv _ _ =>
    exact .keep_goto ha hpc hlt hv rfl (QState.wakes_keeps (futureDropDecide_wakes _ _)) rfl rfl
  -- entry tables: they grant the run right, or leave the word as it was
  case syImmediate hpc hv hr =>
    exact .acquire_goto ha hpc hlt hv rfl ((if_pos (.inl hr)).mp (syncDecide_entry _ _)) rfl rfl rfl
  case syDrain hpc hv hr =>
    exact .acquire_goto ha hpc hlt hv rfl ((if_pos (.inr hr)).mp (syncDecide_entry _ _)) rfl rfl rfl
  case syBackground hpc hv hr =>
    exact .keep_goto ha hpc hlt hv rfl (.of_entry (syncDecide_entry _ _) (by rw [hr]; decide)) rfl rfl
  case syPanic hpc hv h1 h2 _ =>
    exact .keep_goto ha hpc hlt hv rfl (.of_entry (syncDecide_entry _ _) (not_or.mpr ⟨h1, h2⟩)) rfl rfl
  case tsImmediate hpc hv hr =>
    exact .acquire_goto ha hpc hlt hv rfl ((if_pos hr).mp (trySyncDecide_entry _ _)) rfl rfl rfl
  case tsBusy hpc hv hr =>
    exact .of_keep hv (qs_setAct _ _ _) (.of_entry (trySyncDecide_entry _ _) (by rw [hr]; decide)) (holder_setAct _ _ _)
      (fun q => by rw [pcAt_setAct_of_lt hlt, pcAt_of ha, hpc]; rfl)
  case tsPanic hpc hv h1 _ =>
    exact .keep_goto ha hpc hlt hv rfl (.of_entry (trySyncDecide_entry _ _) h1) rfl rfl
  case sbClaimed hpc _ hv hr => exact .acquire_goto ha hpc hlt hv rfl ((if_pos hr).mp (claim_entry _)) rfl rfl rfl
  case sbClaim hpc _ hv hr =>
    exact .keep_goto ha hpc hlt hv rfl (.of_entry (claim_entry _) (by rw [hr]; decide)) rfl rfl
  case ptPopTake hpc _ hv hr => exact .acquire_goto ha hpc hlt hv rfl ((if_pos hr).mp (nextToRun_entry _)) rfl rfl rfl
  case ptPopSkip hpc _ hv hr =>
    exact .keep_goto ha hpc hlt hv rfl (.of_entry (nextToRun_entry _) (by rw [hr]; decide)) rfl rfl
  case pfPollDrain hpc _ _ hv hr => exact .acquire_goto ha hpc hlt hv rfl ((if_pos hr).mp (pollDecide_entry _ _)) rfl rfl rfl
  case pfPollWait hpc _ _ hv hr | pfPollPanic hpc _ _ hv hr =>
    exact .keep_goto ha hpc hlt hv rfl (.of_entry (pollDecide_entry _ _) (by rw [hr]; decide)) rfl rfl
  -- the owner's tables
  case pdPendingLeave hpc hv hr =>
    exact .release_goto ha hpc hlt hv rfl ((if_pos hr).mp (drainPending_release _)) rfl rfl rfl
  case pdPending hpc hv hr =>
    exact .keep_goto ha hpc hlt hv rfl ((if_neg (by rw [hr]; decide)).mp (drainPending_release _)) rfl rfl
  case pdExitLeave hpc hv hr =>
    exact .release_goto ha hpc hlt hv rfl ((if_pos hr).mp (drainExit_release _ _)) rfl rfl rfl
  case pdExit hpc hv hr =>
    exact .keep_goto ha hpc hlt hv rfl ((if_neg (by rw [hr]; decide)).mp (drainExit_release _ _)) rfl rfl
  case rjPendingPark hpc hv _ | rjPendingContinue hpc hv _ | rjPendingPanic hpc hv _ _ | rjPendingPanicNone hpc hv _ _ =>
    exact .keep_goto ha hpc hlt hv rfl (runOnePending_keeps _) rfl rfl
  -- the owner writes the state it leaves its queue in
  case siIdle hpc _ | sdIdle hpc | sbStealIdle hpc | dqSetWfw hpc | dqSetWfp hpc | dqIdle2 hpc | dqIdle hpc =>
    exact .leave_goto h ha hpc hlt rfl rfl rfl rfl rfl
  -- every other rule writes no state word.  A queue record may change (waiters, job list) with its word kept:
  case sbReg hpc hv | sbPushIdle hpc hv _ | sbPush hpc hv _ =>
    exact .goto ha hpc hlt (qSt_setQ_keep rfl hv rfl) rfl rfl
  case rjDequeue hpc _ | rjDequeueNone hpc _ | pdDequeue hpc _ | pdDequeueNone hpc _ | dqDequeue hpc _ | dqDequeueNone hpc _ =>
    exact .goto ha hpc hlt (qSt_dequeue s _ a) (dequeue_holder s _ a) rfl
  case sdPush hpc | pdRequeue hpc | dqRequeue hpc => exact .goto ha hpc hlt (fun q => by simp) (by simp [State.newJob]) rfl
  case sbPrune hpc hv =>
    exact .frame (qSt_setQ_keep (qs_goto s a .ret) hv (by rfl)) (holder_goto _ _ _)
      (fun q => by rw [pcAt_setQ, pcAt_goto_of_lt hlt, pcAt_of ha, hpc]; rfl)
  -- a `woken` flag is written (the mover's own or a waiter's), or a gate
  case rqNotify hpc | sbWait hpc | sbWaiting hpc _ _ | jobStartFut hpc _ _ _ | sfRecvReady hpc _ _ =>
    exact .goto ha hpc hlt (fun q => by simp) (by simp) rfl
  -- a job handed back to its context: the claim is the context's before and after
  case jobAwaitPendingSlot hpc _ _ _ _ | jobAwaitPending hpc _ _ _ =>
    exact .goto ha hpc hlt (qSt_congr rfl) rfl (funext fun q => (holds_ctxPending _ _ _ q).trans (holds_jobAwait _ _ _ q).symm)
  case jobDrop hpc _ _ => exact .goto ha hpc hlt (qSt_congr rfl) rfl (funext fun q => (holds_ctxReady _ _ q).trans (holds_jobDrop _ _ _ q).symm)
  case jobDropNotify hpc _ _ =>
    exact .goto ha hpc hlt (fun q => by simp) (by simp) (funext fun q => (holds_ctxReady _ _ q).trans (holds_jobDropNotify _ _ _ q).symm)
  -- the result is stored with the new program counter
  case pfPollReady hpc _ _ | pollReadySfSched hpc _ _ | pollPendingOnce hpc _ _ | sfPollQueue hpc _ _ | sfPollSched hpc _ _
      | sfPollCompleted hpc _ _ | sfBlockedOnce hpc _ | dqCheckReady hpc _ _ | dqCheck2Ready hpc _ _ | fsTakeReady hpc _ _ =>
    exact .frame (fun q => (qSt_setAct _ _ _ q).trans (qSt_congr rfl q)) (holder_setAct _ _ _)
      (fun q => by rw [pcAt_setAct_of_lt hlt, pcAt_of ha, hpc]; rfl)
  -- `by`: elaborated once `‹_›` has found the rule's program counter; `eq_refl`: `rfl` would first try `Iff.rfl` and `HEq.rfl` in every goal
  all_goals exact .goto ha ‹_› hlt (qSt_congr rfl) rfl (by eq_refl)

end Desync
