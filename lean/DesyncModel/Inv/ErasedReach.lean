/-
The erased-job invariant is preserved by every internal step and holds in every reachable state; the protocol statement of C14.
-/
import DesyncModel.Inv.Erased
import DesyncModel.Inv.JobReach

namespace Desync
open Gen

theorem Step.erasedInv {s s' : State} {a : Nat} {act : Act} (hw : WfInv s) (hj : JobInv s) (h : ErasedInv s)
    (ha : s.acts[a]? = some act) (hst : Step s a act s') : ErasedInv s' := by
  have hN := hst.acts_length_le
  have hlt0 := lt_of_getElem?_some ha
  have hlt := hst.lt_acts ha
  have hpc : ∀ {pc : Pc}, act.pc = pc → s.pcAt a = pc := (pcAt_of ha).trans
  -- no activity has become fresh, if `a` has not
  have hF : ∀ {pc pc' : Pc}, act.pc = pc → s'.pcAt a = pc' → (pc'.fresh = true → pc.fresh = true) →
      ∀ b, (s'.pcAt b).fresh = true → (s.pcAt b).fresh = true := fun e e' h b => by
    by_cases hb : b = a
    · rw [hb, hpc e, e']; exact h
    · rw [hst.class_ne (C := Pc.fresh) (fun _ => rfl) hb]; exact id
  -- ... and every activity waits for the erased job it waited for, if `a` does
  have hC : ∀ {pc pc' : Pc}, act.pc = pc → s'.pcAt a = pc' → pc'.awaited = pc.awaited → (pc'.fresh = true → pc.fresh = true) → CallsKept s s' :=
    fun e e' hA h => ⟨hN, hst.class_eq (fun _ => rfl) (by rw [hpc e, e', hA]), hF e e' h⟩
  have hAne : ∀ b, b ≠ a → (s'.pcAt b).awaited = (s.pcAt b).awaited := fun b => hst.class_ne (fun _ => rfl)
  -- when `a` creates its erased job
  have hA' : ∀ {pc' : Pc} {r}, s'.pcAt a = pc' → pc'.awaited = r → ∀ b, (s'.pcAt b).awaited = if b = a then r else (s.pcAt b).awaited :=
    fun e' h b => h ▸ e' ▸ hst.class_upd (C := Pc.awaited) (fun _ => rfl) b
  have hF' : ∀ {pc' : Pc} {r}, s'.pcAt a = pc' → pc'.fresh = r → ∀ b, (s'.pcAt b).fresh = if b = a then r else (s.pcAt b).fresh :=
    fun e' h b => h ▸ e' ▸ hst.class_upd (C := Pc.fresh) (fun _ => rfl) b
  cases hst
  case sdCheckDone q j jb hpca hjb hdone =>
    refine h.exit hN (fun j' bg hk => ?_) hAne (hF hpca (pcAt_goto_of_lt hlt) id) (jobs_goto ..) (ready_goto ..)
    -- an erased job of `a` that is not done is the one `a` waits for
    cases hd : s.jobD j' with
    | true => rfl
    | false =>
      have e := h.waits j' a bg hk hd
      rw [hpc hpca] at e
      cases (Option.some.inj e : j = j')
      rw [jobD_of hjb, hdone] at hd; cases hd
  case sbTestReady hpca hrdy =>
    refine h.exit hN (fun j' bg hk => ?_) hAne (hF hpca (pcAt_goto_of_lt hlt) id) (jobs_goto ..) (ready_goto ..)
    obtain ⟨j0, hk0⟩ := h.readyHasJob a hrdy
    rw [h.unique j' j0 a bg true hk hk0]
    exact h.readyDone j0 a hk0 hrdy
  case sdPush q b hpca =>
    exact h.push (q := q) (kind := .erasedDrain a b) hlt0 hN (congrArg Pc.fresh (hpc hpca)) (hA' (pcAt_goto_of_lt hlt) rfl)
      (hF' (pcAt_goto_of_lt hlt) rfl) (by simp) rfl (by simp)
  case sbPushIdle hpca _ _ | sbPush hpca _ _ =>
    exact h.push hlt0 hN (congrArg Pc.fresh (hpc hpca)) (hA' (pcAt_goto_of_lt hlt) rfl) (hF' (pcAt_goto_of_lt hlt) rfl) (jobs_goto ..) rfl
      (ready_goto ..)
  case jobDropBg hpca hjb hkind _ =>
    exact h.dropBg (hC hpca (pcAt_goto_of_lt hlt) rfl id) hjb hkind (jobs_goto ..) (ready_goto ..)
  case jobDrop hpca hjb _ =>
    exact h.setJob (hC hpca (pcAt_goto_of_lt hlt) (awaited_ctxReady ..) (fresh_ctxReady ..).symm.trans) hjb
      (jobs_goto ..) rfl (fun _ => rfl) (ready_goto ..)
  case siIdle jb hpca hjb | rjPendingPanic jb hpca _ _ hjb | rjParkCheckPanic jb hpca _ hjb =>
    exact h.setJob (hC hpca (pcAt_goto_of_lt hlt) rfl id) hjb (v := { jb with ph := .done, ended := true }) (by simp) rfl (fun _ => rfl) (by simp)
  case rjDequeue | rjDequeueNone | pdDequeue | pdDequeueNone | dqDequeue | dqDequeueNone =>
    exact h.dequeue hj (hC (‹act.pc = _› :) (pcAt_goto_of_lt hlt) rfl id) (jobs_goto ..) (ready_goto ..)
  case pdRequeue | dqRequeue =>
    obtain ⟨jb, hjb, hph, -⟩ := hj.running (a := a) (congrArg Pc.runningQ (hpc (‹act.pc = _› :)))
    exact h.setPh (ph := .queued) (hC (‹act.pc = _› :) (pcAt_goto_of_lt hlt) rfl id) hjb (by rw [hph]; simp)
      (by simp [jobs_setJobPh_of (s := s.pushFront _ _) (by simpa using hjb)]) (by simp)
  case syImmediate | tsImmediate =>
    exact h.append_plain (hC (‹act.pc = _› :) (pcAt_goto_of_lt hlt) rfl nofun) (jobs_goto ..) rfl (ready_goto ..)
  case dsPushSchedule hpca _ _ | dsPushNone hpca _ _ | dsPushPanic hpca _ _ =>
    -- `schedule_job_desync` is not called with an erased job
    exact h.append_plain (hC hpca (pcAt_goto_of_lt hlt) rfl id) (jobs_goto ..) (kOf_of_not_erased (hpc hpca ▸ hw a :)) (ready_goto ..)
  -- flags or the registered waker of a job change: neither kind nor phase
  case jobStartPlain | jobStartDrain | jobStartBg | jobStartSlotWake | jobStartSlot | jobStartSusp | jobAwaitAfter
      | jobBodyDoneDrain | jobBodyDoneAfter | jobBodyDone | jobEnd | jobSignalWake | jobSignal | openSendJobWake | openSendJob | resumeSendWake
      | resumeSend =>
    exact h.setJob (hC (‹act.pc = _› :) (pcAt_goto_of_lt hlt) rfl id) (‹s.jobs[_]? = some _› :) (jobs_goto ..) rfl id (ready_goto ..)
  case jobStartFut hpca hjb _ _ =>
    exact h.setJob (hC hpca (pcAt_goto_of_lt hlt) rfl id) hjb ((jobs_goto ..).trans (jobs_regGate ..)) rfl id
      ((ready_goto ..).trans (ready_regGate ..))
  case jobAwaitPending hpca hjb _ _ =>
    exact h.setJob (hC hpca (pcAt_goto_of_lt hlt) (awaited_ctxPending ..) (fresh_ctxPending ..).symm.trans) hjb
      (jobs_goto ..) rfl id (ready_goto ..)
  case jobAwaitPendingSlot =>
    exact h.same (hC (‹act.pc = _› :) (pcAt_goto_of_lt hlt) (awaited_ctxPending ..) (fresh_ctxPending ..).symm.trans) (jobs_goto ..) (ready_goto ..)
  case jobDropNotify =>
    exact h.same (hC (‹act.pc = _› :) (pcAt_goto_of_lt hlt) (awaited_ctxReady ..) (fresh_ctxReady ..).symm.trans) (by simp) (by simp)
  -- a `sync` call that has not created its erased job ends
  case syPanic => exact h.same (hC (‹act.pc = _› :) (pcAt_goto_of_lt hlt) rfl nofun) (jobs_goto ..) (ready_goto ..)
  case fsTakeReady => exact h.same (hC (‹act.pc = _› :) (pcAt_setAct_of_lt hlt) rfl nofun) rfl rfl
  case sbPrune => exact h.same (hC (‹act.pc = _› :) ((pcAt_setQ ..).trans (pcAt_goto_of_lt hlt)) rfl id) (jobs_goto ..) (ready_goto ..)
  case tsBusy | pfPollReady | pollReadySfSched | pollPendingOnce | sfPollQueue | sfPollSched | sfPollCompleted | sfBlockedOnce | dqCheckReady
      | dqCheck2Ready =>
    exact h.same (hC (‹act.pc = _› :) (pcAt_setAct_of_lt hlt) rfl id) rfl rfl
  -- Every other rule leaves the job table and the ready flags alone, and `a` waits for what it waited for.  Where the post-state is built
  -- with `setQState`, `setWoken` or `notify`, which match on the state, its fields are those of `s` by `simp`, elsewhere by unfolding.
  case dqIdle | dqIdle2 | dqSetWfp | dqSetWfw | rqNotify | sbStealIdle | sbWait | sbWaiting | sdIdle | sfRecvReady =>
    exact h.same (hC (‹act.pc = _› :) (pcAt_goto_of_lt hlt) rfl id) (by simp) (by simp)
  all_goals exact h.same (hC (‹act.pc = _› :) (pcAt_goto_of_lt hlt) rfl id) (jobs_goto ..) (ready_goto ..)

/-- The environment makes no activity that exists fresh again.  (`EnvStep.pcAt_rel` cannot say this: a new `sync` call is fresh, and
the relation does not tell a new activity from one that has returned.) -/
theorem EnvStep.fresh_of_lt {s s' : State} {l : Label} (he : EnvStep s l s') {b : Nat} (hb : b < s.acts.length)
    (h : (s'.pcAt b).fresh = true) : (s.pcAt b).fresh = true := by
  have move : ∀ {a act pc'}, s.acts[a]? = some act → pc'.fresh = act.pc.fresh → ((s.goto a pc').pcAt b).fresh = true → (s.pcAt b).fresh = true := by
    intro a act pc' ha e h
    rw [pcAt_goto] at h
    split at h
    · next hab => rw [← hab.1, pcAt_of ha, ← e]; exact h
    · exact h
  cases he
  case invoke t parent c s0 pc once _ hst =>
    have hs0 : s0.pcAt b = s.pcAt b := by simp only [State.pcAt, hst.sameCore.2]
    rwa [pcAt_addAct, if_neg (Nat.ne_of_lt (hst.sameCore.2 ▸ hb)), hs0] at h
  case bodyEnd ha _ hpc => exact move ha (hpc ▸ rfl) h
  case ret a act ha hpc =>
    rw [pcAt_setChild, pcAt_setAct] at h
    split at h
    · cases h
    · exact h
  case unpark ha hpc => exact move ha (hpc ▸ rfl) h
  case repoll ha hpc => exact move ha (hpc ▸ rfl) h
  case repollSf ha hpc => exact move ha (hpc ▸ rfl) h

theorem EnvStep.erasedInv {s s' : State} {l : Label} (h : ErasedInv s) (he : EnvStep s l s') : ErasedInv s' :=
  (ErasedInvF.frame h he.acts_length_le (fun _ => id)
      (fun b _ => he.pcAt_blind (C := Pc.awaited)
        { refl := fun _ => rfl, body := fun _ _ => rfl, parked := fun _ _ _ => rfl, pfBlocked := fun _ => rfl, sfBlocked := fun _ => rfl, ret := rfl
          entry := fun hst => by cases hst <;> rfl } b)
      (fun b hb => he.fresh_of_lt hb)).congr
    (jobK_congr he.sameCore.jobs) (jobD_congr he.sameCore.jobs) (fun _ => rfl) (fun _ => rfl) (isReady_congr he.sameCore.ready) rfl

theorem erasedInv_reachable {s : State} (hr : Reachable s) : ErasedInv s :=
  Reachable.invariant erasedInv_initP
    (fun hr h ha _ hst => hst.erasedInv (fullInv_reachable hr).1 (fullInv_reachable hr).2.job h ha) (fun _ h he => he.erasedInv h) hr

/-- **C14, protocol level**: a lifetime-erased job — a closure holding references into the stack frame of the `sync`
call that created it — that has not been dropped yet has a live owner: the activity of that call exists and its program
counter is inside the wait loop of sync_drain / sync_background, waiting for exactly this job.  In particular the call has
neither returned nor finished. -/
theorem erased_job_owner_waits {s : State} (hr : Reachable s) {j : Nat} {b : Job} {owner : Nat} {body : Body}
    (hb : s.jobs[j]? = some b) (hk : b.kind = .erasedDrain owner body ∨ b.kind = .erasedBg owner body) (hnd : b.ph ≠ .done) :
    (s.pcAt owner).awaited = some j := by
  have h := erasedInv_reachable hr
  have hd : s.jobD j = false := by
    rw [jobD_of hb]; cases hp : b.ph <;> simp_all
  rcases hk with hk | hk
  · exact h.waits j owner false (by rw [jobK_of hb]; simp [kOf, hk]) hd
  · exact h.waits j owner true (by rw [jobK_of hb]; simp [kOf, hk]) hd

end Desync
