/-
I_watch: a queue on the schedule is never left without somebody who will look at the schedule.
-/
import DesyncModel.Inv.Watch

namespace Desync
open Gen

/-- pool thread `p` is busy and its activity has not (yet) found the schedule empty: it will look at the schedule again
before it goes to sleep (and if it is asleep it has a message waiting: `ThrInv.restOk`) -/
def Watching (s : State) (p : Nat) : Prop :=
  ∃ pt w, s.pthreads[p]? = some pt ∧ pt.busy = true ∧ s.po w = some p ∧ (s.cl w).gave = false

/-- a `schedule_thread` call under way that can still be relied on: it has not started its scan (or has spawned a thread and starts
over), or every thread it has passed so far is watching, or it is about to spawn and every thread of the vector is watching -/
def GoodSt (s : State) (a : Nat) : Prop :=
  match s.cl a with
  | .st .reap | .st .scanLock | .st .spawnRel => True
  | .st (.scan i) | .st (.scanHeld i) => ∀ j p, j < i → s.threadsVec[j]? = some p → Watching s p
  | .st .readMax | .st (.spawn _) => ∀ p, p ∈ s.threadsVec → Watching s p
  | _ => False

/-- I_watch: while a queue is on the schedule, some pool thread is watching or a `schedule_thread` call is under way that can still be relied on -/
def SchedW (s : State) : Prop := s.schedule ≠ [] → (∃ p, Watching s p) ∨ (∃ a, GoodSt s a)

theorem watch_keep {s X : State} {p : Nat} (hw : Watching s p)
    (hpth : ∀ pt : PThr, s.pthreads[p]? = some pt → pt.busy = true → ∃ pt' : PThr, X.pthreads[p]? = some pt' ∧ pt'.busy = true)
    (hact : ∀ w, s.po w = some p → (s.cl w).gave = false → X.po w = some p ∧ (X.cl w).gave = false) : Watching X p := by
  obtain ⟨pt, w, h1, h2, h3, h4⟩ := hw
  obtain ⟨pt', h5, h6⟩ := hpth pt h1 h2
  exact ⟨pt', w, h5, h6, (hact w h3 h4).1, (hact w h3 h4).2⟩

theorem pth_busy_of_eq {s X : State} (h : X.pthreads = s.pthreads) (p : Nat) :
    ∀ pt : PThr, s.pthreads[p]? = some pt → pt.busy = true → ∃ pt' : PThr, X.pthreads[p]? = some pt' ∧ pt'.busy = true :=
  fun pt h1 h2 => ⟨pt, by rw [h]; exact h1, h2⟩

theorem pth_busy_of_set {s X : State} {p0 : Nat} {pt0 v : PThr} (hX : X.pthreads = s.pthreads.set p0 v) (h0 : s.pthreads[p0]? = some pt0)
    (hv : pt0.busy = true → v.busy = true) (p : Nat) :
    ∀ pt : PThr, s.pthreads[p]? = some pt → pt.busy = true → ∃ pt' : PThr, X.pthreads[p]? = some pt' ∧ pt'.busy = true := by
  intro pt h1 h2
  rw [pth_set_lookup hX h0 p]
  by_cases hp : p = p0
  · subst hp
    simp only [↓reduceIte]
    rw [h0] at h1
    exact ⟨v, rfl, hv (by rw [Option.some.inj h1]; exact h2)⟩
  · simp only [hp, ↓reduceIte]; exact ⟨pt, h1, h2⟩

theorem act_keep {s X : State} {a p : Nat} (hoth : ∀ b, b ≠ a → X.pcAt b = s.pcAt b) (hpo : X.po a = s.po a)
    (hg : (s.cl a).gave = false → (X.cl a).gave = false) : ∀ w, s.po w = some p → (s.cl w).gave = false → X.po w = some p ∧ (X.cl w).gave = false := by
  intro w h1 h2
  by_cases hwa : w = a
  · subst hwa; exact ⟨by rw [hpo]; exact h1, hg h2⟩
  · simp only [State.po, State.cl, hoth w hwa]; exact ⟨h1, h2⟩

theorem watch_other {s X : State} {a p p0 : Nat} {pt0 v : PThr} (hw : Watching s p) (hpp : p ≠ p0) (hoth : ∀ b, b ≠ a → X.pcAt b = s.pcAt b)
    (hpa : s.po a = some p0) (hX : X.pthreads = s.pthreads.set p0 v) (h0 : s.pthreads[p0]? = some pt0) : Watching X p := by
  obtain ⟨pt1, w, h1, h2, h3, h4⟩ := hw
  have hwa : w ≠ a := fun e => hpp (Option.some.inj ((e ▸ h3 : s.po a = some p).symm.trans hpa))
  refine ⟨pt1, w, ?_, h2, ?_, ?_⟩
  · rw [pth_set_lookup hX h0 p]; simp only [hpp, ↓reduceIte]; exact h1
  · simp only [State.po, hoth w hwa]; exact h3
  · simp only [State.cl, hoth w hwa]; exact h4

/-- a watching thread keeps watching, unless it has just found the schedule empty -/
theorem watch_pstep {s X : State} {a p : Nat} (hu : PoInv s) (ht : ThrInv s) (hp : PStep s a X) (hw : Watching s p) :
    Watching X p ∨ X.schedule = [] := by
  cases hp
  case popEmpty p0 hb hc he hX hc' => exact .inr (hX.sched ▸ he)
  -- a thread that exits was not busy (its mailbox is empty); a thread that clears its busy flag had given up
  case ptExit p0 pt hoth hc hpo hp hm hh hX hc' hpo' =>
    refine .inl (watch_other hw (fun e => ?_) hoth hpo hX.pth hp)
    obtain ⟨pt1, w, h1, h2, -, -⟩ := hw
    cases (e ▸ h1 : s.pthreads[p0]? = some pt1).symm.trans hp
    have := ht.restOk a p0 pt hpo hp h2 (by rw [hc]; rfl)
    omega
  case unlockBusyNone p0 pt hb hc hpo hp hX hc' =>
    refine .inl (watch_other hw (fun e => ?_) hb.oth hpo hX.pth hp)
    obtain ⟨pt1, w, -, -, h3, h4⟩ := hw
    cases hu.uniq w a p0 (e ▸ h3) hpo
    rw [hc] at h4; cases h4
  case spawnYes m hc hl hlt hoth hnew hpo ha hX hc' =>
    refine .inl (watch_keep hw (fun pt h1 h2 => ⟨pt, ?_, h2⟩) (fun w h1 h2 => ?_))
    · rw [hX.pth, List.getElem?_append_left (lt_of_getElem?_some h1)]; exact h1
    · have hwn : w ≠ s.acts.length := fun e => by rw [e, State.po, pcAt_len] at h1; cases h1
      by_cases hwa : w = a
      · subst hwa; exact ⟨by rw [hpo]; exact h1, by rw [hc']; rfl⟩
      · simp only [State.po, State.cl, hoth w hwa hwn]; exact ⟨h1, h2⟩
  case unlockSched p0 g hb hc hX hc' =>
    refine .inl (watch_keep hw (pth_busy_of_eq hX.pth p) (act_keep hb.oth hb.po fun hg => ?_))
    rw [hc'] ; rw [hc] at hg; cases g <;> first | rfl | cases hg
  -- a thread record is written; a busy thread stays busy
  case scanSend i p0 pt hb hc hv hp hbusy hX hc' =>
    exact .inl (watch_keep hw (pth_busy_of_set hX.pth hp (fun _ => rfl) p) (act_keep hb.oth hb.po (by simp [*, PCls.gave])))
  case scanAcq i p0 pt hb hc hv hp hl hX hc' | scanBusy i p0 pt hb hc hv hp hbusy hX hc' | scanRel i p0 f pt hb hc hv hp hX hc'
      | ptGot p0 pt hb hc hpo hp hm hX hc' | ptLockBusy p0 pt hb hc hp hl hX hc' | unlockBusySome p0 q pt hb hc hp hX hc'
      | dpHangPop m p0 g pt hb hc hv hp hX hc' =>
    exact .inl (watch_keep hw (pth_busy_of_set hX.pth hp id p) (act_keep hb.oth hb.po (by simp [*, PCls.gave])))
  -- the thread records are not touched
  all_goals
    exact .inl (watch_keep hw (pth_busy_of_eq (‹PoolIs X _ _ _ _ _›).pth p)
      (act_keep (‹Base s a X›).oth (‹Base s a X›).po (by simp [*, ↓PCls.of_plain, PCls.gave])))

theorem sched_grows_only_by_push {s X : State} {a : Nat} (hp : PStep s a X) (hs : s.schedule = []) (hne : X.schedule ≠ []) : X.cl a = .st .reap := by
  cases hp
  case push q hb hc hX hc' => exact hc'
  case claim f hb hc hX => exfalso; apply hne; rw [hX.sched, hs]; rfl
  case popTake p0 q rest hb hc he hX hc' | popSkip p0 q rest hb hc he hX hc' => rw [hs] at he; cases he
  all_goals exact absurd ((‹PoolIs X _ _ _ _ _›).sched.trans hs) hne

theorem GoodSt.st {s : State} {b : Nat} (hg : GoodSt s b) : ∃ ph, s.cl b = .st ph := by
  unfold GoodSt at hg
  split at hg <;> first | exact ⟨_, ‹_›⟩ | exact hg.elim

theorem cl_oth_of_good {s X : State} {a b : Nat} (hp : PStep s a X) (hba : b ≠ a) (hg : GoodSt s b) : X.cl b = s.cl b := by
  rcases hp.pcAt_oth hba with h | ⟨rfl, -⟩
  · exact congrArg Pc.cls h
  · obtain ⟨ph, e⟩ := hg.st
    cases (congrArg Pc.cls (pcAt_len s)).symm.trans e

/-- a good `schedule_thread` call stays good while the vector and its class stay and watching threads keep watching -/
theorem good_transfer {s X : State} {b : Nat} (hcl : X.cl b = s.cl b) (hvec : X.threadsVec = s.threadsVec)
    (keepW : ∀ p, Watching s p → Watching X p) (hg : GoodSt s b) : GoodSt X b := by
  unfold GoodSt at hg ⊢
  rw [hcl, hvec]
  -- `simp_all` closes the classes whose `GoodSt` is `True` or `False`; left are the scan (threads below the index) and, after it,
  -- `readMax` / `spawn` (all threads of the vector)
  split <;> simp_all
  all_goals first
    | (intro j p hj hp; exact keepW p (hg j p hj hp))
    | (intro p hp; exact keepW p (hg p hp))

/-- a good call stays good when the vector shrinks, if it is not in its scan (it does not hold the lock of the vector) -/
theorem good_shrink {s X : State} {b : Nat} (hcl : X.cl b = s.cl b) (hnl : (s.cl b).tlHeld = false) (hsub : X.threadsVec.Sublist s.threadsVec)
    (keepW : ∀ p, Watching s p → Watching X p) (hg : GoodSt s b) : GoodSt X b := by
  unfold GoodSt at hg ⊢
  rw [hcl]
  split <;> simp_all [PCls.tlHeld]
  all_goals intro p hp; exact keepW p (hg p (hsub.subset hp))

theorem gave_cases (c : PCls) (h : c.gave = true) : ∃ p ph, c = .pt p ph ∧ c.ownBL = some p := by
  cases c with
  | pt p ph =>
    cases ph with
    | unlockBusy g => exact ⟨p, _, rfl, rfl⟩
    | unlockSched g => exact ⟨p, _, rfl, rfl⟩
    | _ => simp [PCls.gave] at h
  | _ => simp [PCls.gave] at h

/-- the activity of the thread whose busy flag a scan holds cannot be in the window in which it has given up, because it holds its
own busy flag there -/
theorem not_gave_of_scanned {s : State} {a i p w : Nat} (hbl : BlInv s)
    (hc : (s.cl a).scanIdx = some i) (hv : s.threadsVec[i]? = some p) (hw : s.po w = some p) : (s.cl w).gave = false := by
  cases hg : (s.cl w).gave with
  | false => rfl
  | true =>
    exfalso
    obtain ⟨p', ph, h1, h2⟩ := gave_cases _ hg
    cases (cls_poolOf _ p' ph h1).symm.trans hw
    cases Option.some.inj ((hbl.own w p (.inr h2)).symm.trans (hbl.own a p (.inl ⟨i, hc, hv⟩)))
    rw [h1] at hc; cases hc

theorem watching_of_scanned {s : State} {a i p : Nat} {pt : PThr} (hbl : BlInv s) (hth : ThrInv s)
    (hc : (s.cl a).scanIdx = some i) (hv : s.threadsVec[i]? = some p) (hp : s.pthreads[p]? = some pt) (hb : pt.busy = true) : Watching s p := by
  obtain ⟨w, hw⟩ := hth.exist p pt hp hb
  exact ⟨pt, w, hp, hb, hw, not_gave_of_scanned hbl hc hv hw⟩

/-- another activity's good `schedule_thread` call stays good, or the mover has just spawned a thread (and is good) -/
theorem good_oth_pstep {s X : State} {a b : Nat} (ht : TlInv s) (hp : PStep s a X) (hba : b ≠ a)
    (keepW : ∀ p, Watching s p → Watching X p) (hg : GoodSt s b) : GoodSt X b ∨ GoodSt X a := by
  have hcl := cl_oth_of_good hp hba hg
  rcases hp.vec ht with hv | hv
  · exact .inl (good_transfer hcl hv keepW hg)
  · rcases hv.sub with hsub | hsp
    · exact .inl (good_shrink hcl (hv.alone b hba) hsub keepW hg)
    · exact .inr (by simp [GoodSt, hsp])

/-- the mover's own good `schedule_thread` call: after its step it is still good, or it has found a watching thread -/
theorem good_self_pstep {s X : State} {a : Nat} (hbl : BlInv s) (hth : ThrInv s) (hnz : MaxInv (1 ≤ ·) s) (hp : PStep s a X)
    (keepW : ∀ p, Watching s p → Watching X p) (hg : GoodSt s a) : (∃ p, Watching X p) ∨ GoodSt X a := by
  cases hp
  case neutral hb hc hX | claim f hb hc hX => exact .inr (good_transfer hc hX.vec keepW hg)
  -- phases that are good whatever the vector holds
  case reap hb hc hl vec hsub hX hc' | scanLock hb hc hl hX hc' | spawnYes m hc hl hlt hoth hnew hpo ha hX hc' | spawnRel hb hc hX hc' =>
    exact .inr (by simp [GoodSt, hc'])
  -- the scan has passed the whole vector
  case scanEnd i hb hc hv hX hc' =>
    right
    simp only [GoodSt, hc] at hg
    simp only [GoodSt, hc', hX.vec]
    intro p hpm
    obtain ⟨j, hj⟩ := List.getElem?_of_mem hpm
    exact keepW p (hg j p (Nat.lt_of_lt_of_le (lt_of_getElem?_some hj) (List.getElem?_eq_none_iff.mp hv)) hj)
  case scanAcq i p pt hb hc hv hp hl hX hc' =>
    right
    simp only [GoodSt, hc] at hg
    simp only [GoodSt, hc', hX.vec]
    intro j p' hj hp'; exact keepW p' (hg j p' hj hp')
  -- the thread at the index is busy: it is watching, and the scan passes it
  case scanBusy i p pt hb hc hv hp hbusy hX hc' =>
    right
    have hwp : Watching s p := watching_of_scanned hbl hth (by rw [hc]; rfl) hv hp hbusy
    simp only [GoodSt, hc] at hg
    simp only [GoodSt, hc', hX.vec]
    intro j p' hj hp'
    by_cases hji : j = i
    · subst hji; rw [hv] at hp'; rw [← Option.some.inj hp']; exact keepW p hwp
    · exact keepW p' (hg j p' (by omega) hp')
  -- the thread at the index is idle: it is handed a message, and is watching from now on
  case scanSend i p pt hb hc hv hp hbusy hX hc' =>
    left
    obtain ⟨w, hw⟩ := hth.live p (List.mem_of_getElem? hv)
    have hng := not_gave_of_scanned hbl (a := a) (by rw [hc]; rfl) hv hw
    refine ⟨p, { pt with busy := true, mailbox := pt.mailbox + 1 }, w, ?_, rfl, ?_, ?_⟩
    · rw [pth_set_lookup hX.pth hp p]; simp
    · rw [po_all_of hb.oth hb.po]; exact hw
    · by_cases hwa : w = a
      · subst hwa; rw [hc']; rfl
      · simp only [State.cl, hb.oth w hwa]; exact hng
  case readMax hb hc hX hc' =>
    right
    simp only [GoodSt, hc] at hg
    simp only [GoodSt, hc', hX.vec]
    intro p hpm; exact keepW p (hg p hpm)
  -- no spawn: the vector is at the maximum read, which is not zero, so it holds a thread, and that thread is watching
  case spawnNo m hb hc hge hX hc' =>
    left
    simp only [GoodSt, hc] at hg
    have hm : 1 ≤ m := by have := hnz.cls a; rw [hc] at this; exact this
    cases hvl : s.threadsVec with
    | nil => rw [hvl] at hge; simp at hge; omega
    | cons p rest => exact ⟨p, keepW p (hg p (by rw [hvl]; exact List.mem_cons_self))⟩
  -- otherwise the mover was not in a good phase of `schedule_thread`
  case push q hb hc hX hc' | dpRead hb hc hX hc' =>
    obtain ⟨ph, e⟩ := hg.st
    rw [e] at hc; cases hc
  all_goals exact absurd hg (by simp [GoodSt, *])

/-- I_watch is preserved by every step of the abstract pool -/
theorem sched_pstep {s X : State} {a : Nat} (hu : PoInv s) (hth : ThrInv s) (htl : TlInv s) (hbl : BlInv s) (hnz : MaxInv (1 ≤ ·) s)
    (hp : PStep s a X) (h : SchedW s) : SchedW X := by
  intro hne
  by_cases hs : s.schedule = []
  · right
    exact ⟨a, by simp [GoodSt, sched_grows_only_by_push hp hs hne]⟩
  · have keepW : ∀ p, Watching s p → Watching X p := fun p hw => (watch_pstep hu hth hp hw).resolve_right hne
    rcases h hs with ⟨p, hw⟩ | ⟨b, hg⟩
    · exact Or.inl ⟨p, keepW p hw⟩
    · by_cases hba : b = a
      · subst hba
        rcases good_self_pstep hbl hth hnz hp keepW hg with h1 | h1
        · exact Or.inl h1
        · exact Or.inr ⟨b, h1⟩
      · rcases good_oth_pstep htl hp hba keepW hg with h1 | h1
        · exact Or.inr ⟨b, h1⟩
        · exact Or.inr ⟨a, h1⟩

end Desync
