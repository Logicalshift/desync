/-
I_pool: the pool never holds more threads than the largest maximum configured so far.
`M` is any bound on the configured maxima (the initial one and every value passed to set_max_threads);
the invariant says the threads vector never grows beyond `M` — in particular, while the maximum is constant, never
beyond the maximum.  The only delicate point is that a spawn decides with the maximum it read a few critical sections
earlier (`stReadMax` → `stSpawn m`): the invariant carries `m ≤ M` for every such value still in flight (`MaxInv`).
-/
import DesyncModel.Inv.WatchReach

namespace Desync
open Gen

structure PoolInv (M : Nat) (s : State) : Prop where
  vec : s.threadsVec.length ≤ M
  maxes : MaxInv (· ≤ M) s

/-- the vector grows only by a spawn, which pushes a thread only below the maximum it read -/
theorem PoolInv.pstep {M : Nat} {s X : State} {a : Nat} (h : PoolInv M s) (hp : PStep s a X) : PoolInv M X := by
  refine ⟨?_, max_pstep h.maxes hp⟩
  have ha := h.maxes.cls a
  have hv := h.vec
  cases hp
  case spawnYes m hc _ hlt _ _ _ _ hX _ =>
    rw [hc] at ha
    rw [hX.vec, List.length_append]
    exact Nat.le_trans hlt ha
  case reap vec hsub hX _ => rw [hX.vec]; exact Nat.le_trans hsub.length_le hv
  case dpHangPop hX _ => rw [hX.vec, List.length_dropLast]; exact Nat.le_trans (Nat.sub_le _ _) hv
  all_goals rw [(‹PoolIs X _ _ _ _ _›).vec]; exact hv

theorem PoolInv.penv {M : Nat} {s X : State} (h : PoolInv M s) (he : PEnv (· ≤ M) s X) : PoolInv M X :=
  ⟨he.pool.vec ▸ h.vec, h.maxes.penv he⟩

/-- the environment never configures a maximum above `M` -/
def labelOk (M : Nat) : Label → Bool
  | .invoke _ _ (.setMax n) => decide (n ≤ M)
  | _ => true

/-- states reachable when the initial maximum and every maximum passed to set_max_threads is at most `M` -/
inductive ReachableB (M : Nat) : State → Prop where
  | init (nq ng max : Nat) : max ≤ M → ReachableB M (initState nq ng max)
  | initP (ps : List Bool) (ng max : Nat) : max ≤ M → ReachableB M (initStateP ps ng max)
  | step {s s' : State} (l : Label) : ReachableB M s → labelOk M l = true → next s l = some s' → ReachableB M s'

theorem ReachableB.reachable {M : Nat} {s : State} (h : ReachableB M s) : Reachable s := by
  induction h with
  | init nq ng max _ => exact Reachable.init nq ng max
  | initP ps ng max _ => exact Reachable.initP ps ng max
  | step l _ _ hs ih => exact Reachable.step l ih hs

theorem poolInv_reachable {M : Nat} {s : State} (hr : ReachableB M s) : PoolInv M s := by
  induction hr with
  | init nq ng max hle => exact ⟨Nat.zero_le M, hle, fun _ => trivial⟩
  | initP ps ng max hle => exact ⟨Nat.zero_le M, hle, fun _ => trivial⟩
  | step l hr hok hn ih =>
    rcases next_pool (P := (· ≤ M)) hr.reachable (fun _ _ n e => by subst e; exact of_decide_eq_true hok) hn with ⟨a, hp⟩ | pe
    · exact ih.pstep hp
    · exact ih.penv pe

end Desync
