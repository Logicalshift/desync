/-
The program counter of an activity, `s.pcAt a` (`dead` for an activity that does not exist), and how the setters act on it; what
`setQState` is in terms of `setQ`.
-/
import DesyncModel.Lemmas
import DesyncModel.Setters

namespace Desync

def State.pcAt (s : State) (a : Nat) : Pc :=
  match s.acts[a]? with
  | some v => v.pc
  | none => .dead

theorem pcAt_of {s : State} {a : Nat} {act : Act} (ha : s.acts[a]? = some act) : s.pcAt a = act.pc := by
  simp [State.pcAt, ha]

theorem pcAt_of_nil {s : State} (ha : s.acts = []) (a : Nat) : s.pcAt a = .dead := by
  simp [State.pcAt, ha]

theorem pcAt_len (s : State) : s.pcAt s.acts.length = .dead := by
  simp [State.pcAt]

theorem pcAt_congr {s X : State} (h : X.acts = s.acts) (b : Nat) : X.pcAt b = s.pcAt b := by
  simp only [State.pcAt, h]

@[simp] theorem pcAt_setAct (s : State) (a b : Nat) (v : Act) :
    (s.setAct a v).pcAt b = if a = b ∧ a < s.acts.length then v.pc else s.pcAt b := by
  simp only [State.pcAt, State.setAct, List.getElem?_set]
  by_cases hab : a = b
  · subst hab
    by_cases hlt : a < s.acts.length
    · simp [hlt]
    · simp [hlt]
  · simp [hab]

theorem pcAt_goto (s : State) (a b : Nat) (pc : Pc) :
    (s.goto a pc).pcAt b = if a = b ∧ a < s.acts.length then pc else s.pcAt b := by
  unfold State.goto
  split
  · next v hv => simp
  · next hv =>
    have : ¬ a < s.acts.length := by
      intro hlt
      have := List.getElem?_eq_getElem hlt
      simp_all
    simp [this]

theorem pcAt_goto_ne {X : State} {a b : Nat} (pc : Pc) (h : b ≠ a) : (X.goto a pc).pcAt b = X.pcAt b := by
  rw [pcAt_goto]; simp [Ne.symm h]

theorem pcAt_setAct_ne {X : State} {a b : Nat} (v : Act) (h : b ≠ a) : (X.setAct a v).pcAt b = X.pcAt b := by
  rw [pcAt_setAct]; simp [Ne.symm h]

theorem pcAt_goto_self {X : State} {a : Nat} (pc : Pc) (h : a < X.acts.length) : (X.goto a pc).pcAt a = pc := by
  rw [pcAt_goto]; simp [h]

theorem pcAt_setAct_self {X : State} {a : Nat} (v : Act) (h : a < X.acts.length) : (X.setAct a v).pcAt a = v.pc := by
  rw [pcAt_setAct]; simp [h]

theorem pcAt_setAct_samepc (s : State) (p : Nat) (pv v : Act) (hp : s.acts[p]? = some pv) (hv : v.pc = pv.pc) (b : Nat) :
    (s.setAct p v).pcAt b = s.pcAt b := by
  rw [pcAt_setAct]; split
  · next e => rw [← e.1, hv, pcAt_of hp]
  · rfl

theorem goto_eq_setAct {X : State} {a : Nat} {act : Act} (pc : Pc) (h : X.acts[a]? = some act) :
    X.goto a pc = X.setAct a { act with pc := pc } := by
  unfold State.goto; rw [h]

theorem setQState_eq (s : State) (q : Nat) (st : QState) (v : JobQ) (h : s.qs[q]? = some v) :
    s.setQState q st = s.setQ q { v with state := st } := by
  simp [State.setQState, h]

@[simp] theorem pcAt_setQ (s : State) (q : Nat) (v : JobQ) (b : Nat) : (s.setQ q v).pcAt b = s.pcAt b := rfl
@[simp] theorem pcAt_setJob (s : State) (j : Nat) (v : Job) (b : Nat) : (s.setJob j v).pcAt b = s.pcAt b := rfl
@[simp] theorem pcAt_setHolder (s : State) (q : Nat) (h : Option Nat) (b : Nat) : (s.setHolder q h).pcAt b = s.pcAt b := rfl
@[simp] theorem pcAt_setPThr (s : State) (p : Nat) (v : PThr) (c : Nat) : (s.setPThr p v).pcAt c = s.pcAt c := rfl
@[simp] theorem pcAt_setFut (s : State) (f : Nat) (v : Fut) (c : Nat) : (s.setFut f v).pcAt c = s.pcAt c := rfl
@[simp] theorem pcAt_setGate (s : State) (g : Nat) (v : Gate) (c : Nat) : (s.setGate g v).pcAt c = s.pcAt c := rfl
@[simp] theorem pcAt_setSf (s : State) (u : Nat) (v : SyncFut) (c : Nat) : (s.setSf u v).pcAt c = s.pcAt c := rfl
@[simp] theorem pcAt_takeReady (s : State) (w a c : Nat) : (s.takeReady w a).pcAt c = s.pcAt c := rfl
@[simp] theorem pcAt_dropReady (s : State) (w c : Nat) : (s.dropReady w).pcAt c = s.pcAt c := rfl
@[simp] theorem pcAt_setJobPh (s : State) (j : Nat) (ph : Phase) (c : Nat) : (s.setJobPh j ph).pcAt c = s.pcAt c := by
  simp [State.pcAt]

@[simp] theorem pcAt_pushFront (s : State) (q j c : Nat) : (s.pushFront q j).pcAt c = s.pcAt c := by simp [State.pcAt]

@[simp] theorem pcAt_pushBack (s : State) (q j c : Nat) : (s.pushBack q j).pcAt c = s.pcAt c := by simp [State.pcAt]

@[simp] theorem pcAt_setQState (s : State) (q : Nat) (st : QState) (c : Nat) : (s.setQState q st).pcAt c = s.pcAt c := by simp [State.pcAt]

@[simp] theorem pcAt_setWoken (s : State) (a : Nat) (b : Bool) (c : Nat) : (s.setWoken a b).pcAt c = s.pcAt c := by
  unfold State.setWoken
  split
  · next v hv => exact pcAt_setAct_samepc s a v _ hv (by rfl) c
  · rfl

@[simp] theorem pcAt_notify (s : State) (w c : Nat) : (s.notify w).pcAt c = s.pcAt c := by
  unfold State.notify
  split
  · next v hv =>
    split
    · exact pcAt_setAct_samepc s w v _ hv (by rfl) c
    · rfl
  · rfl

@[simp] theorem acts_length_setWoken (s : State) (a : Nat) (b : Bool) : (s.setWoken a b).acts.length = s.acts.length := by
  unfold State.setWoken; split <;> simp [State.setAct]

@[simp] theorem acts_length_notify (s : State) (w : Nat) : (s.notify w).acts.length = s.acts.length := by
  unfold State.notify; split <;> (try split) <;> simp [State.setAct]

@[simp] theorem pcAt_newJob (s : State) (q : Nat) (kind : JobKind) (b : Nat) : (s.newJob q kind).1.pcAt b = s.pcAt b := rfl

@[simp] theorem pcAt_dequeue (s : State) (q a c : Nat) : (s.dequeue q a).1.pcAt c = s.pcAt c := by
  simp [State.pcAt, dequeue_acts]

@[simp] theorem qs_length_pushFront (s : State) (q j : Nat) : (s.pushFront q j).qs.length = s.qs.length := by
  unfold State.pushFront; split <;> simp [State.setQ]

@[simp] theorem qs_length_pushBack (s : State) (q j : Nat) : (s.pushBack q j).qs.length = s.qs.length := by
  unfold State.pushBack; split <;> simp [State.setQ]

@[simp] theorem qs_length_setQState (s : State) (q : Nat) (st : QState) : (s.setQState q st).qs.length = s.qs.length := by
  unfold State.setQState; split <;> simp [State.setQ]

end Desync
