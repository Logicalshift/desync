/-
An activity never changes thread: no internal step and no move of the environment removes an activity record or writes its
`thread` field.
-/
import DesyncModel.Inv.StepFacts

namespace Desync
open Gen

/-- every activity record of `s` is still there in `X`, on the same thread -/
def ThreadsKeep (s X : State) : Prop := List.Keeps (fun v v' : Act => v'.thread = v.thread) s.acts X.acts

namespace ThreadsKeep
variable {s X : State}

theorem of_append {l : List Act} (h : X.acts = s.acts ++ l) : ThreadsKeep s X := List.Keeps.append (fun _ => rfl) h

theorem of_eq (h : X.acts = s.acts) : ThreadsKeep s X := List.Keeps.refl (fun _ => rfl) h

theorem setAct {c : Nat} {w : Act} (h : ThreadsKeep s X) (hw : ∀ v, X.acts[c]? = some v → w.thread = v.thread) :
    ThreadsKeep s (X.setAct c w) := by
  intro b v hb
  obtain ⟨v1, h1, k1⟩ := h b v hb
  by_cases e : c = b
  · subst e; exact ⟨w, by simp [State.setAct, lt_of_getElem?_some h1], (hw v1 h1).trans k1⟩
  · exact ⟨v1, by simpa [State.setAct, List.getElem?_set, e] using h1, k1⟩

theorem goto {a : Nat} {pc : Pc} (h : ThreadsKeep s X) : ThreadsKeep s (X.goto a pc) := by
  unfold State.goto; split
  · next v hv => exact h.setAct fun v1 h1 => by cases hv.symm.trans h1; rfl
  · exact h

theorem setWoken {c : Nat} {w : Bool} (h : ThreadsKeep s X) : ThreadsKeep s (X.setWoken c w) := by
  unfold State.setWoken; split
  · next v hv => exact h.setAct fun v1 h1 => by cases hv.symm.trans h1; rfl
  · exact h

theorem notify {c : Nat} (h : ThreadsKeep s X) : ThreadsKeep s (X.notify c) := by
  unfold State.notify; split
  · next v hv =>
    split
    · exact h.setAct fun v1 h1 => by cases hv.symm.trans h1; rfl
    · exact h
  · exact h

end ThreadsKeep

/-- No rule writes the `thread` of an activity record: the mover gets a new program counter (and perhaps a result and a mode), `woken`
flags are set and cleared, and `stSpawn` appends the record of a pool thread. -/
theorem Step.threadsKeep {s s' : State} {a : Nat} {act : Act} (h : Step s a act s') (ha : s.acts[a]? = some act) : ThreadsKeep s s' := by
  -- the rules that also set the mover's result or mode write its whole record
  have mover : ∀ {X : State} {w : Act}, X.acts = s.acts → w.thread = act.thread → ThreadsKeep s (X.setAct a w) := fun hX hw =>
    (ThreadsKeep.of_eq hX).setAct fun v hv => by cases ((hX ▸ hv :) : s.acts[a]? = some v).symm.trans ha; exact hw
  cases h
  case stSpawn => exact .goto (.of_append rfl)
  case rqNotify | jobDropNotify => exact .goto (.notify (.of_eq rfl))
  case sbWait | sbWaiting => exact .goto (.setWoken (.of_eq rfl))
  case sbPrune => exact (ThreadsKeep.goto (.of_eq rfl) :)
  case tsBusy | pfPollReady | pollReadySfSched | pollPendingOnce | sfPollQueue | sfPollSched | sfPollCompleted | sfBlockedOnce
      | dqCheckReady | dqCheck2Ready | fsTakeReady => exact mover rfl rfl
  all_goals exact .goto (.of_eq (by simp [dequeue_acts]))

theorem threadOf_of {s : State} {a : Nat} {act : Act} (ha : s.acts[a]? = some act) : s.threadOf a = act.thread := by
  simp [State.threadOf, ha]

@[simp] theorem threadOf_setQ (s : State) (q : Nat) (v : JobQ) (b : Nat) : (s.setQ q v).threadOf b = s.threadOf b := rfl
@[simp] theorem threadOf_setJob (s : State) (j : Nat) (v : Job) (b : Nat) : (s.setJob j v).threadOf b = s.threadOf b := rfl
@[simp] theorem threadOf_setHolder (s : State) (q : Nat) (h : Option Nat) (b : Nat) : (s.setHolder q h).threadOf b = s.threadOf b := rfl
@[simp] theorem threadOf_setPThr (s : State) (p : Nat) (v : PThr) (c : Nat) : (s.setPThr p v).threadOf c = s.threadOf c := rfl
@[simp] theorem threadOf_setFut (s : State) (f : Nat) (v : Fut) (c : Nat) : (s.setFut f v).threadOf c = s.threadOf c := rfl
@[simp] theorem threadOf_setGate (s : State) (g : Nat) (v : Gate) (c : Nat) : (s.setGate g v).threadOf c = s.threadOf c := rfl
@[simp] theorem threadOf_setSf (s : State) (u : Nat) (v : SyncFut) (c : Nat) : (s.setSf u v).threadOf c = s.threadOf c := rfl
@[simp] theorem threadOf_takeReady (s : State) (w a c : Nat) : (s.takeReady w a).threadOf c = s.threadOf c := rfl
@[simp] theorem threadOf_dropReady (s : State) (w c : Nat) : (s.dropReady w).threadOf c = s.threadOf c := rfl
@[simp] theorem threadOf_newJob (s : State) (q : Nat) (k : JobKind) (c : Nat) : (s.newJob q k).1.threadOf c = s.threadOf c := rfl

theorem ThreadsKeep.threadOf {s X : State} (h : ThreadsKeep s X) {b : Nat} (hb : b < s.acts.length) : X.threadOf b = s.threadOf b := by
  obtain ⟨v', hv', hk⟩ := h b _ (List.getElem?_eq_getElem hb)
  rw [threadOf_of hv', threadOf_of (List.getElem?_eq_getElem hb), hk]

theorem Step.threadOf {s s' : State} {a : Nat} {act : Act} (h : Step s a act s') (ha : s.acts[a]? = some act) {b : Nat}
    (hb : b < s.acts.length) : s'.threadOf b = s.threadOf b :=
  (h.threadsKeep ha).threadOf hb

theorem threadOf_stepAct {s s' : State} {a : Nat} {o : Obs} (hs : stepAct s a = some (s', o)) :
    ∀ b, b < s.acts.length → s'.threadOf b = s.threadOf b :=
  let ⟨_, ha, _, hst⟩ := Step.of_stepAct hs
  fun _ hb => hst.threadOf ha hb

theorem threadOf_setAct_same {s : State} {a : Nat} {pv v : Act} (hp : s.acts[a]? = some pv) (hv : v.thread = pv.thread) (b : Nat) :
    (s.setAct a v).threadOf b = s.threadOf b := by
  simp only [State.threadOf, State.setAct, List.getElem?_set]
  by_cases e : a = b
  · subst e; obtain ⟨hlt, rfl⟩ := List.getElem?_eq_some_iff.mp hp; simp [hlt, hv]
  · simp [e]

theorem threadOf_goto (s : State) (a : Nat) (pc : Pc) (b : Nat) : (s.goto a pc).threadOf b = s.threadOf b := by
  unfold State.goto; split
  · next v hv => exact threadOf_setAct_same (v := { v with pc := pc }) hv rfl b
  · rfl

theorem threadOf_setChild (s : State) (p c : Option Nat) (b : Nat) : (s.setChild p c).threadOf b = s.threadOf b := by
  unfold State.setChild; split
  · split
    · next pv hpv => exact threadOf_setAct_same (v := { pv with child := c }) hpv rfl b
    · rfl
  · rfl

theorem EnvStep.threadOf {s s' : State} {l : Label} (h : EnvStep s l s') {b : Nat} (hb : b < s.acts.length) :
    s'.threadOf b = s.threadOf b := by
  cases h
  case invoke hst =>
    rw [addAct_fst, threadOf_setChild]
    simp only [State.threadOf, hst.sameCore.2, List.getElem?_append_left hb]
  case ret act ha _ => rw [threadOf_setChild]; exact threadOf_setAct_same (v := { act with pc := .dead }) ha rfl b
  all_goals exact threadOf_goto _ _ _ _

end Desync
