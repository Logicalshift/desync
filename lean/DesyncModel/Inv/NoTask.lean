/-
Executions in which no returned future is ever polled and `future_sync` is not used (`ReachableNT`, Inv/WakeReach.lean, where the
environment's half is too): no activity is ever in
the task-context code (`SchedulerFuture::poll`, `drain_queue`, `SyncFuture::poll`), no job is run with a `DrainWaker`, and no
slot job exists.  I_wake (C06) is proved for these executions: every queue is run by pool threads and sync callers only.
-/
import DesyncModel.Inv.StepTables

namespace Desync
open Gen

def JobKind.isSlot : JobKind → Bool
  | .slot _ _ => true
  | _ => false

/-- no task-context program counter occurs anywhere in the pc, and it is not about to queue a slot job -/
def Pc.noTask : Pc → Bool
  | .begin _ k | .body _ k | .unwinding k => k.noTask
  | .stReap k | .stScanLock k | .stScan _ k | .stScanHeld _ k | .stScanRel _ _ k
  | .stScanUnlock _ k | .stReadMax k | .stSpawn _ k | .stSpawnRel k => k.noTask
  | .rqCs _ k | .rqNotifyAcq _ _ _ k | .rqNotify _ _ _ k | .rqNotifyRel _ _ _ k | .rqPush _ k => k.noTask
  | .resumeSend _ k | .waking _ k | .openSend _ k | .wqCs _ k | .wtCs _ _ k | .wtUnpark _ k | .lwCs _ k | .dwCs _ k => k.noTask
  | .rjDequeue _ k | .rjPending _ _ k | .rjParkCheck _ _ k | .rjPark _ _ k | .rjParked _ _ k => k.noTask
  | .jobStart _ c k | .jobAwait _ c k | .jobBodyDone _ c k | .jobEnd _ c k | .jobSignal _ c k
  | .jobSigDrop _ c k | .jobDrop _ c k | .jobDropNotify _ c k | .suspSignal _ c k | .suspSigDrop _ c k =>
      (match c with | .caller _ => k.noTask | .pool _ _ => true | .task _ _ _ => false)
  | .pfPoll _ | .pfPollRel _ _ | .pfBlocked _ | .pollReady _ | .pollPending _ => false
  | .sfPoll _ | .sfRecv _ | .sfUser _ | .sfFinish _ | .sfBlocked _ => false
  | .dqCheck _ _ | .dqDequeue _ _ | .dqRequeue _ _ _ _ | .dqCheck2 _ _ _ | .dqSetWfw _ _ _ | .dqStore _ _ _ | .dqSetWfp _ _ _
  | .dqWakeWith _ _ _ _ | .dqStore2 _ _ | .dqIdle2 _ _ | .dqIdle _ _ => false
  | .dsPush _ kind => !kind.isSlot
  | .fdDrop _ k => k.noTask
  | _ => true

@[simp] theorem noTask_ctxReady (k : Pc) (c : Ctx) : (ctxReady k c).noTask = (match c with | .caller _ => k.noTask | .pool _ _ => true | .task _ _ _ => false) := by
  cases c <;> rfl
@[simp] theorem noTask_ctxPending (j : Nat) (k : Pc) (c : Ctx) : (ctxPending j k c).noTask = (match c with | .caller _ => k.noTask | .pool _ _ => true | .task _ _ _ => false) := by
  cases c <;> rfl

def NoTaskPc (s : State) : Prop := ∀ b, (s.pcAt b).noTask = true

/-- A rule of the task-context code cannot fire, the mover is not there (`hk`); every other rule keeps the mover's continuation, so
`hk` says it again, or goes to a program counter of plain code. -/
theorem Step.noTaskPc {s s' : State} {a : Nat} {act : Act} (h : NoTaskPc s) (ha : s.acts[a]? = some act) (hst : Step s a act s') :
    NoTaskPc s' := by
  have hlt := hst.lt_acts ha
  have hk : act.pc.noTask = true := pcAt_of ha ▸ h a
  have hS : ∀ {pc' : Pc}, s'.pcAt a = pc' → pc'.noTask = true → NoTaskPc s' := fun hself hok b =>
    if hb : b = a then by rw [hb, hself]; exact hok else (hst.class_ne (C := Pc.noTask) (fun _ => rfl) hb).trans (h b)
  cases hst
  all_goals replace hk := ‹act.pc = _› ▸ hk
  case pfPollReady | pfPollWait | pfPollDrain | pfPollPanic | pfPollRelDrain | pfPollRel | pfBlocked | pollReadyAwait | pollReadySfQueue
      | pollReadySfSched | pollPendingOnce | pollPendingAwait | pollPendingSfQueue | pollPendingSfSched | sfPollQueue | sfPollFuture
      | sfPollSched | sfPollCompleted | sfRecvReady | sfRecv | sfUserReady | sfUser | sfFinishWake | sfFinish | sfBlockedOnce | sfBlocked
      | dqCheckReady | dqCheck | dqDequeue | dqDequeueNone | dqRequeue | dqCheck2Ready | dqCheck2 | dqSetWfw | dqStore | dqSetWfp
      | dqWakeWithNow | dqWakeWith | dqStore2 | dqIdle2 | dqIdle => cases hk
  case tsBusy | fsTakeReady => exact hS (pcAt_setAct_of_lt hlt) rfl
  case sbPrune => exact hS ((pcAt_setQ ..).trans (pcAt_goto_of_lt hlt)) rfl
  case dsPushSchedule | dsPushNone | dsPushPanic => exact hS (pcAt_goto_of_lt hlt) rfl
  case jobDrop | jobDropNotify => exact hS (pcAt_goto_of_lt hlt) ((noTask_ctxReady ..).trans hk)
  case jobAwaitPending | jobAwaitPendingSlot => exact hS (pcAt_goto_of_lt hlt) ((noTask_ctxPending ..).trans hk)
  all_goals exact hS (pcAt_goto_of_lt hlt) hk

def NoSlot (s : State) : Prop := ∀ jb, jb ∈ s.jobs → jb.kind.isSlot = false

theorem NoSlot.same {s X : State} (h : NoSlot s) (hj : X.jobs = s.jobs) : NoSlot X := fun jb hm => h jb (by rw [← hj]; exact hm)

theorem NoSlot.setJob {s X : State} {j : Nat} {b v : Job} (h : NoSlot s) (hX : X.jobs = (s.setJob j v).jobs) (hb : s.jobs[j]? = some b) (hk : v.kind = b.kind) : NoSlot X := by
  intro jb hm
  rw [hX] at hm
  simp only [State.setJob] at hm
  rcases List.mem_or_eq_of_mem_set hm with h1 | h1
  · exact h jb h1
  · rw [h1, hk]; exact h b (List.mem_of_getElem? hb)

theorem NoSlot.append {s X : State} {l : List Job} (h : NoSlot s) (hX : X.jobs = s.jobs ++ l) (hl : ∀ jb, jb ∈ l → jb.kind.isSlot = false) : NoSlot X := by
  intro jb hm
  rw [hX] at hm
  rcases List.mem_append.mp hm with h1 | h1
  · exact h jb h1
  · exact hl jb h1

/-- By `Step.jobs_cases`: an updated job keeps its kind; a new one is of the kind `schedule_job_desync` was called with, no slot kind
by `Pc.noTask` at `dsPush` (`hw`), or of one of `sync`'s own kinds. -/
theorem Step.noSlot {s s' : State} {a : Nat} {act : Act} (hp : NoTaskPc s) (h : NoSlot s) (ha : s.acts[a]? = some act)
    (hst : Step s a act s') : NoSlot s' := by
  have hw : act.pc.noTask = true := pcAt_of ha ▸ hp a
  rcases hst.jobs_cases with e | ⟨j, b, v, hb, e, -, hk, -⟩ | ⟨n, e, -, hn⟩
  · exact h.same e
  · exact h.setJob e hb hk
  · refine h.append e fun jb hm => ?_
    cases List.mem_singleton.mp hm
    rcases hn with hpc | ⟨b, hk | hk | hk⟩
    · rw [hpc] at hw; exact (Bool.not_eq_true' _).mp hw
    all_goals rw [hk]; rfl

structure NoTaskInv (s : State) : Prop where
  pcs : NoTaskPc s
  jobs : NoSlot s

theorem Step.noTaskInv {s s' : State} {a : Nat} {act : Act} (h : NoTaskInv s) (ha : s.acts[a]? = some act) (hst : Step s a act s') :
    NoTaskInv s' :=
  ⟨hst.noTaskPc h.pcs ha, hst.noSlot h.pcs h.jobs ha⟩

/-! `NoSlot` under single updates; `Step.noSlot` needs none of these. -/

theorem NoSlot.dequeue {s : State} (h : NoSlot s) (q a : Nat) : NoSlot (s.dequeue q a).1 := by
  rcases s.jobs_dequeue_cases q a with e | ⟨j, b, hb, e⟩
  · exact h.same e
  · exact h.setJob e hb rfl

theorem NoSlot.setAct_of {Y : State} {a : Nat} {v : Act} (h : NoSlot Y) : NoSlot (Y.setAct a v) := h

theorem NoSlot.setQ_of {Y : State} {q : Nat} {v : JobQ} (h : NoSlot Y) : NoSlot (Y.setQ q v) := h

end Desync
