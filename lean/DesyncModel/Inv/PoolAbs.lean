/-
The thread pool seen on its own: what an activity is to the pool (`Pc.cls`), whose pool thread it is (`Pc.poolOf`), and the abstract
transition relation `PStep` that every internal step of the scheduler model refines, with `PEnv` for the moves of the environment
(`Inv/PoolSim.lean`).  `PStep` mentions only the five pool fields of the state (thread records, threads vector, its lock, the
schedule, the maximum) and the classes of the activities; the invariants of `Inv/Watch*.lean` and `Inv/Pool.lean` are proved about
`PStep` and `PEnv` and transported to `Step` and `EnvStep`.
-/
import DesyncModel.Inv.Acts

namespace Desync
open Gen

/-- where a `schedule_thread` call is -/
inductive StPh where
  | reap | scanLock | scan (i : Nat) | scanHeld (i : Nat) | scanRel (i : Nat) (found : Bool) | scanUnlock (found : Bool)
  | readMax | spawn (m : Nat) | spawnRel
  deriving DecidableEq, Repr

/-- where a pool thread is in its loop (`work` = it has a queue and is draining it) -/
inductive PtPh where
  | recv | recvd | lockBusy | lockSched | pop | unlockSched (got : Option Nat) | unlockBusy (got : Option Nat) | work
  deriving DecidableEq, Repr

inductive PCls where
  | neutral
  | st (ph : StPh)
  | pt (p : Nat) (ph : PtPh)
  | smSet (n : Nat)
  | dpLock (m : Nat)
  | dpHang (m : Nat) (gone : List Nat)
  deriving DecidableEq, Repr

/-- what the activity is doing as far as the pool is concerned (looking through the pcs that only carry a continuation) -/
def Pc.cls : Pc → PCls
  | .begin _ k | .body _ k | .unwinding k => k.cls
  | .stReap _ => .st .reap
  | .stScanLock _ => .st .scanLock
  | .stScan i _ => .st (.scan i)
  | .stScanHeld i _ => .st (.scanHeld i)
  | .stScanRel i f _ => .st (.scanRel i f)
  | .stScanUnlock f _ => .st (.scanUnlock f)
  | .stReadMax _ => .st .readMax
  | .stSpawn m _ => .st (.spawn m)
  | .stSpawnRel _ => .st .spawnRel
  | .rqCs _ k | .rqNotifyAcq _ _ _ k | .rqNotify _ _ _ k | .rqNotifyRel _ _ _ k | .rqPush _ k => k.cls
  | .resumeSend _ k | .waking _ k | .openSend _ k | .wqCs _ k | .wtCs _ _ k | .wtUnpark _ k | .lwCs _ k | .dwCs _ k => k.cls
  | .rjDequeue _ k | .rjPending _ _ k | .rjParkCheck _ _ k | .rjPark _ _ k | .rjParked _ _ k => k.cls
  | .jobStart _ c k | .jobAwait _ c k | .jobBodyDone _ c k | .jobEnd _ c k | .jobSignal _ c k
  | .jobSigDrop _ c k | .jobDrop _ c k | .jobDropNotify _ c k | .suspSignal _ c k | .suspSigDrop _ c k =>
      (match c with | .caller _ => k.cls | .pool p _ => .pt p .work | .task _ _ _ => .neutral)
  | .ptRecv p => .pt p .recv
  | .ptRecvd p => .pt p .recvd
  | .ptLockBusy p => .pt p .lockBusy
  | .ptLockSched p => .pt p .lockSched
  | .ptPop p => .pt p .pop
  | .ptUnlockSched p g => .pt p (.unlockSched g)
  | .ptUnlockBusy p g => .pt p (.unlockBusy g)
  | .pdDequeue p _ | .pdRequeue p _ _ | .pdPending p _ | .pdExit p _ => .pt p .work
  | .pfPollRel _ next => next.cls
  | .dqWakeWith _ _ _ k => k.cls
  | .fdDrop _ k => k.cls
  | .smSet n => .smSet n
  | .dpLock m => .dpLock m
  | .dpHang m g => .dpHang m g
  | _ => .neutral

/-- the pool thread this activity is (a pool thread stays one while it runs `schedule_thread` from inside a job) -/
def Pc.poolOf : Pc → Option Nat
  | .begin _ k | .body _ k | .unwinding k => k.poolOf
  | .stReap k | .stScanLock k | .stScan _ k | .stScanHeld _ k | .stScanRel _ _ k
  | .stScanUnlock _ k | .stReadMax k | .stSpawn _ k | .stSpawnRel k => k.poolOf
  | .rqCs _ k | .rqNotifyAcq _ _ _ k | .rqNotify _ _ _ k | .rqNotifyRel _ _ _ k | .rqPush _ k => k.poolOf
  | .resumeSend _ k | .waking _ k | .openSend _ k | .wqCs _ k | .wtCs _ _ k | .wtUnpark _ k | .lwCs _ k | .dwCs _ k => k.poolOf
  | .rjDequeue _ k | .rjPending _ _ k | .rjParkCheck _ _ k | .rjPark _ _ k | .rjParked _ _ k => k.poolOf
  | .jobStart _ c k | .jobAwait _ c k | .jobBodyDone _ c k | .jobEnd _ c k | .jobSignal _ c k
  | .jobSigDrop _ c k | .jobDrop _ c k | .jobDropNotify _ c k | .suspSignal _ c k | .suspSigDrop _ c k =>
      (match c with | .caller _ => k.poolOf | .pool p _ => some p | .task _ _ _ => none)
  | .ptRecv p | .ptRecvd p | .ptLockBusy p | .ptLockSched p | .ptPop p | .ptUnlockSched p _ | .ptUnlockBusy p _ => some p
  | .pdDequeue p _ | .pdRequeue p _ _ | .pdPending p _ | .pdExit p _ => some p
  | .pfPollRel _ next => next.poolOf
  | .dqWakeWith _ _ _ k => k.poolOf
  | .fdDrop _ k => k.poolOf
  | _ => none

/-- nothing in this pc, at the head or in a continuation, is a `schedule_thread` step, a pool-loop step other than draining, or
a pool-resizing step -/
def Pc.quiet : Pc → Bool
  | .begin _ k | .body _ k | .unwinding k => k.quiet
  | .stReap _ | .stScanLock _ | .stScan _ _ | .stScanHeld _ _ | .stScanRel _ _ _
  | .stScanUnlock _ _ | .stReadMax _ | .stSpawn _ _ | .stSpawnRel _ => false
  | .rqCs _ k | .rqNotifyAcq _ _ _ k | .rqNotify _ _ _ k | .rqNotifyRel _ _ _ k | .rqPush _ k => k.quiet
  | .resumeSend _ k | .waking _ k | .openSend _ k | .wqCs _ k | .wtCs _ _ k | .wtUnpark _ k | .lwCs _ k | .dwCs _ k => k.quiet
  | .rjDequeue _ k | .rjPending _ _ k | .rjParkCheck _ _ k | .rjPark _ _ k | .rjParked _ _ k => k.quiet
  | .jobStart _ c k | .jobAwait _ c k | .jobBodyDone _ c k | .jobEnd _ c k | .jobSignal _ c k
  | .jobSigDrop _ c k | .jobDrop _ c k | .jobDropNotify _ c k | .suspSignal _ c k | .suspSigDrop _ c k =>
      (match c with | .caller _ => k.quiet | _ => true)
  | .ptRecv _ | .ptRecvd _ | .ptLockBusy _ | .ptLockSched _ | .ptPop _ | .ptUnlockSched _ _ | .ptUnlockBusy _ _ => false
  | .pfPollRel _ next => next.quiet
  | .dqWakeWith _ _ _ k => k.quiet
  | .fdDrop _ k => k.quiet
  | .smSet _ | .dpLock _ | .dpHang _ _ => false
  | _ => true

/-- a pc is well formed when the only pool step in it is at its head -/
def Pc.wf : Pc → Bool
  | .stReap k | .stScanLock k | .stScan _ k | .stScanHeld _ k | .stScanRel _ _ k
  | .stScanUnlock _ k | .stReadMax k | .stSpawn _ k | .stSpawnRel k => k.quiet
  | .ptRecv _ | .ptRecvd _ | .ptLockBusy _ | .ptLockSched _ | .ptPop _ | .ptUnlockSched _ _ | .ptUnlockBusy _ _ => true
  | .smSet _ | .dpLock _ | .dpHang _ _ => true
  | pc => pc.quiet

/-- the class of a quiet pc: nothing, or a pool thread draining a queue -/
def PCls.plain : PCls → Bool
  | .neutral => true
  | .pt _ .work => true
  | _ => false

/-- by induction along `Pc.cls`: the class is that of a continuation, which is quiet too; or it is plain; or `h` is false -/
theorem quiet_plain (pc : Pc) (h : pc.quiet = true) : pc.cls.plain = true := by
  fun_induction Pc.cls pc <;> first | exact ‹_ → _› h | rfl | cases h

theorem quiet_wf (pc : Pc) (h : pc.quiet = true) : pc.wf = true := by
  fun_cases Pc.wf pc <;> first | exact h | cases h

/-- by induction along `Pc.cls`: the class is that of a continuation, or `h` names the pool thread, or `h` is false -/
theorem cls_poolOf (pc : Pc) (p : Nat) (ph : PtPh) (h : pc.cls = .pt p ph) : pc.poolOf = some p := by
  fun_induction Pc.cls pc <;> first | exact ‹_ → _› h | cases h <;> rfl

/-- by induction along `Pc.poolOf`: the thread is that of a continuation, which the class looks through or hides behind a
`schedule_thread` step; or `h` names the pool thread, or `h` is false -/
theorem poolOf_cls (pc : Pc) (p : Nat) (h : pc.poolOf = some p) : (∃ ph, pc.cls = .pt p ph) ∨ (∃ ph, pc.cls = .st ph) := by
  fun_induction Pc.poolOf pc <;> first | exact ‹_ → _› h | exact .inr ⟨_, rfl⟩ | cases h <;> exact .inl ⟨_, rfl⟩

@[simp] theorem cls_ctxReady (k : Pc) (c : Ctx) :
    (ctxReady k c).cls = (match c with | .caller _ => k.cls | .pool p _ => .pt p .work | .task _ _ _ => .neutral) := by
  cases c <;> rfl
@[simp] theorem cls_ctxPending (j : Nat) (k : Pc) (c : Ctx) :
    (ctxPending j k c).cls = (match c with | .caller _ => k.cls | .pool p _ => .pt p .work | .task _ _ _ => .neutral) := by
  cases c <;> rfl
@[simp] theorem poolOf_ctxReady (k : Pc) (c : Ctx) :
    (ctxReady k c).poolOf = (match c with | .caller _ => k.poolOf | .pool p _ => some p | .task _ _ _ => none) := by
  cases c <;> rfl
@[simp] theorem poolOf_ctxPending (j : Nat) (k : Pc) (c : Ctx) :
    (ctxPending j k c).poolOf = (match c with | .caller _ => k.poolOf | .pool p _ => some p | .task _ _ _ => none) := by
  cases c <;> rfl
@[simp] theorem quiet_ctxReady (k : Pc) (c : Ctx) :
    (ctxReady k c).quiet = (match c with | .caller _ => k.quiet | _ => true) := by
  cases c <;> rfl
@[simp] theorem quiet_ctxPending (j : Nat) (k : Pc) (c : Ctx) :
    (ctxPending j k c).quiet = (match c with | .caller _ => k.quiet | _ => true) := by
  cases c <;> rfl

def State.cl (s : State) (a : Nat) : PCls := (s.pcAt a).cls
def State.po (s : State) (a : Nat) : Option Nat := (s.pcAt a).poolOf

/-- the activities other than `a` are where they were, and `a` is the pool thread it was -/
structure Base (s : State) (a : Nat) (X : State) : Prop where
  oth : ∀ b, b ≠ a → X.pcAt b = s.pcAt b
  po : X.po a = s.po a

def PoolIs (X : State) (pth : List PThr) (vec : List Nat) (tl : Option Nat) (sch : List Nat) (mx : Nat) : Prop :=
  X.pthreads = pth ∧ X.threadsVec = vec ∧ X.threadsLock = tl ∧ X.schedule = sch ∧ X.maxThreads = mx

def PoolSame (s X : State) : Prop := PoolIs X s.pthreads s.threadsVec s.threadsLock s.schedule s.maxThreads

section
variable {X : State} {p : List PThr} {v : List Nat} {tl : Option Nat} {sch : List Nat} {mx : Nat} (h : PoolIs X p v tl sch mx)
include h
theorem PoolIs.pth : X.pthreads = p := h.1
theorem PoolIs.vec : X.threadsVec = v := h.2.1
theorem PoolIs.lock : X.threadsLock = tl := h.2.2.1
theorem PoolIs.sched : X.schedule = sch := h.2.2.2.1
theorem PoolIs.max : X.maxThreads = mx := h.2.2.2.2
end

/-- What one internal step of activity `a` does to the pool. -/
inductive PStep (s : State) (a : Nat) (X : State) : Prop where
  /-- nothing -/
  | neutral (hb : Base s a X) (hc : X.cl a = s.cl a) (hX : PoolSame s X)
  -- schedule_thread
  | reap (hb : Base s a X) (hc : s.cl a = .st .reap) (hl : s.threadsLock = none) (vec : List Nat) (hsub : vec.Sublist s.threadsVec)
      (hX : PoolIs X s.pthreads vec s.threadsLock s.schedule s.maxThreads) (hc' : X.cl a = .st .scanLock)
  | scanLock (hb : Base s a X) (hc : s.cl a = .st .scanLock) (hl : s.threadsLock = none)
      (hX : PoolIs X s.pthreads s.threadsVec (some a) s.schedule s.maxThreads) (hc' : X.cl a = .st (.scan 0))
  | scanEnd (i : Nat) (hb : Base s a X) (hc : s.cl a = .st (.scan i)) (hv : s.threadsVec[i]? = none)
      (hX : PoolIs X s.pthreads s.threadsVec none s.schedule s.maxThreads) (hc' : X.cl a = .st .readMax)
  | scanAcq (i p : Nat) (pt : PThr) (hb : Base s a X) (hc : s.cl a = .st (.scan i)) (hv : s.threadsVec[i]? = some p)
      (hp : s.pthreads[p]? = some pt) (hl : pt.busyLock = none)
      (hX : PoolIs X (s.pthreads.set p { pt with busyLock := some a }) s.threadsVec s.threadsLock s.schedule s.maxThreads)
      (hc' : X.cl a = .st (.scanHeld i))
  | scanBusy (i p : Nat) (pt : PThr) (hb : Base s a X) (hc : s.cl a = .st (.scanHeld i)) (hv : s.threadsVec[i]? = some p)
      (hp : s.pthreads[p]? = some pt) (hbusy : pt.busy = true)
      (hX : PoolIs X (s.pthreads.set p { pt with busyLock := none }) s.threadsVec s.threadsLock s.schedule s.maxThreads)
      (hc' : X.cl a = .st (.scan (i + 1)))
  | scanSend (i p : Nat) (pt : PThr) (hb : Base s a X) (hc : s.cl a = .st (.scanHeld i)) (hv : s.threadsVec[i]? = some p)
      (hp : s.pthreads[p]? = some pt) (hbusy : pt.busy = false)
      (hX : PoolIs X (s.pthreads.set p { pt with busy := true, mailbox := pt.mailbox + 1 }) s.threadsVec s.threadsLock s.schedule s.maxThreads)
      (hc' : X.cl a = .st (.scanRel i true))
  | scanRel (i p : Nat) (f : Bool) (pt : PThr) (hb : Base s a X) (hc : s.cl a = .st (.scanRel i f)) (hv : s.threadsVec[i]? = some p)
      (hp : s.pthreads[p]? = some pt)
      (hX : PoolIs X (s.pthreads.set p { pt with busyLock := none }) s.threadsVec s.threadsLock s.schedule s.maxThreads)
      (hc' : X.cl a = .st (.scanUnlock f))
  | scanUnlock (f : Bool) (hb : Base s a X) (hc : s.cl a = .st (.scanUnlock f))
      (hX : PoolIs X s.pthreads s.threadsVec none s.schedule s.maxThreads) (hc' : (X.cl a).plain = true)
  | readMax (hb : Base s a X) (hc : s.cl a = .st .readMax) (hX : PoolSame s X) (hc' : X.cl a = .st (.spawn s.maxThreads))
  | spawnYes (m : Nat) (hc : s.cl a = .st (.spawn m)) (hl : s.threadsLock = none) (hlt : s.threadsVec.length < m)
      (hoth : ∀ b, b ≠ a → b ≠ s.acts.length → X.pcAt b = s.pcAt b)
      (hnew : X.pcAt s.acts.length = .ptRecv s.pthreads.length) (hpo : X.po a = s.po a) (ha : a < s.acts.length)
      (hX : PoolIs X (s.pthreads ++ [{ busy := false, busyLock := none, mailbox := 0, hungUp := false, exited := false }])
              (s.threadsVec ++ [s.pthreads.length]) (some a) s.schedule s.maxThreads)
      (hc' : X.cl a = .st .spawnRel)
  | spawnNo (m : Nat) (hb : Base s a X) (hc : s.cl a = .st (.spawn m)) (hge : m ≤ s.threadsVec.length) (hX : PoolSame s X)
      (hc' : (X.cl a).plain = true)
  | spawnRel (hb : Base s a X) (hc : s.cl a = .st .spawnRel)
      (hX : PoolIs X s.pthreads s.threadsVec none s.schedule s.maxThreads) (hc' : X.cl a = .st .reap)
  /-- reschedule_queue / schedule_job_desync put a queue on the schedule and go on to schedule_thread -/
  | push (q : Nat) (hb : Base s a X) (hc : (s.cl a).plain = true)
      (hX : PoolIs X s.pthreads s.threadsVec s.threadsLock (s.schedule ++ [q]) s.maxThreads) (hc' : X.cl a = .st .reap)
  /-- a waiting sync caller takes a queue off the schedule -/
  | claim (f : Nat → Bool) (hb : Base s a X) (hc : X.cl a = s.cl a)
      (hX : PoolIs X s.pthreads s.threadsVec s.threadsLock (s.schedule.filter f) s.maxThreads)
  -- the pool thread loop
  | ptRecv (p : Nat) (hb : Base s a X) (hc : s.cl a = .pt p .recv) (hX : PoolSame s X) (hc' : X.cl a = .pt p .recvd)
  | ptGot (p : Nat) (pt : PThr) (hb : Base s a X) (hc : s.cl a = .pt p .recvd) (hpo : s.po a = some p) (hp : s.pthreads[p]? = some pt)
      (hm : 0 < pt.mailbox)
      (hX : PoolIs X (s.pthreads.set p { pt with mailbox := pt.mailbox - 1 }) s.threadsVec s.threadsLock s.schedule s.maxThreads)
      (hc' : X.cl a = .pt p .lockBusy)
  | ptExit (p : Nat) (pt : PThr) (hoth : ∀ b, b ≠ a → X.pcAt b = s.pcAt b)
      (hc : s.cl a = .pt p .recvd) (hpo : s.po a = some p) (hp : s.pthreads[p]? = some pt)
      (hm : pt.mailbox = 0) (hh : pt.hungUp = true)
      (hX : PoolIs X (s.pthreads.set p { pt with exited := true }) s.threadsVec s.threadsLock s.schedule s.maxThreads)
      (hc' : X.cl a = .neutral) (hpo' : X.po a = none)
  | ptLockBusy (p : Nat) (pt : PThr) (hb : Base s a X) (hc : s.cl a = .pt p .lockBusy) (hp : s.pthreads[p]? = some pt) (hl : pt.busyLock = none)
      (hX : PoolIs X (s.pthreads.set p { pt with busyLock := some a }) s.threadsVec s.threadsLock s.schedule s.maxThreads)
      (hc' : X.cl a = .pt p .lockSched)
  | ptLockSched (p : Nat) (hb : Base s a X) (hc : s.cl a = .pt p .lockSched) (hX : PoolSame s X) (hc' : X.cl a = .pt p .pop)
  | popEmpty (p : Nat) (hb : Base s a X) (hc : s.cl a = .pt p .pop) (he : s.schedule = []) (hX : PoolSame s X)
      (hc' : X.cl a = .pt p (.unlockBusy none))
  | popTake (p q : Nat) (rest : List Nat) (hb : Base s a X) (hc : s.cl a = .pt p .pop) (he : s.schedule = q :: rest)
      (hX : PoolIs X s.pthreads s.threadsVec s.threadsLock rest s.maxThreads) (hc' : X.cl a = .pt p (.unlockSched (some q)))
  | popSkip (p q : Nat) (rest : List Nat) (hb : Base s a X) (hc : s.cl a = .pt p .pop) (he : s.schedule = q :: rest)
      (hX : PoolIs X s.pthreads s.threadsVec s.threadsLock rest s.maxThreads) (hc' : X.cl a = .pt p .pop)
  | unlockSched (p : Nat) (g : Option Nat) (hb : Base s a X) (hc : s.cl a = .pt p (.unlockSched g)) (hX : PoolSame s X)
      (hc' : X.cl a = .pt p (.unlockBusy g))
  | unlockBusySome (p q : Nat) (pt : PThr) (hb : Base s a X) (hc : s.cl a = .pt p (.unlockBusy (some q))) (hp : s.pthreads[p]? = some pt)
      (hX : PoolIs X (s.pthreads.set p { pt with busyLock := none }) s.threadsVec s.threadsLock s.schedule s.maxThreads)
      (hc' : X.cl a = .pt p .work)
  | unlockBusyNone (p : Nat) (pt : PThr) (hb : Base s a X) (hc : s.cl a = .pt p (.unlockBusy none)) (hpo : s.po a = some p)
      (hp : s.pthreads[p]? = some pt)
      (hX : PoolIs X (s.pthreads.set p { pt with busyLock := none, busy := false }) s.threadsVec s.threadsLock s.schedule s.maxThreads)
      (hc' : X.cl a = .pt p .recv)
  | drainEnd (p : Nat) (hb : Base s a X) (hc : s.cl a = .pt p .work) (hX : PoolSame s X) (hc' : X.cl a = .pt p .lockBusy)
  -- set_max_threads / despawn_threads_if_overloaded
  | smSet (n : Nat) (hb : Base s a X) (hc : s.cl a = .smSet n)
      (hX : PoolIs X s.pthreads s.threadsVec s.threadsLock s.schedule n) (hc' : (X.cl a).plain = true)
  | dpRead (hb : Base s a X) (hc : (s.cl a).plain = true) (hX : PoolSame s X) (hc' : X.cl a = .dpLock s.maxThreads)
  | dpLock (m : Nat) (hb : Base s a X) (hc : s.cl a = .dpLock m) (hl : s.threadsLock = none)
      (hX : PoolIs X s.pthreads s.threadsVec (some a) s.schedule s.maxThreads) (hc' : X.cl a = .dpHang m [])
  | dpHangPop (m p : Nat) (g : List Nat) (pt : PThr) (hb : Base s a X) (hc : s.cl a = .dpHang m g)
      (hv : s.threadsVec.getLast? = some p) (hp : s.pthreads[p]? = some pt)
      (hX : PoolIs X (s.pthreads.set p { pt with hungUp := true }) s.threadsVec.dropLast s.threadsLock s.schedule s.maxThreads)
      (hc' : X.cl a = .dpHang m (g ++ [p]))
  | dpHangEnd (m : Nat) (g : List Nat) (hb : Base s a X) (hc : s.cl a = .dpHang m g)
      (hX : PoolIs X s.pthreads s.threadsVec none s.schedule s.maxThreads) (hc' : (X.cl a).plain = true)

/-- what a move of the environment may do to a program counter: nothing the pool can see, except that a fresh activity may be a
`set_max_threads(n)` call with `P n` -/
def EnvMove (P : Nat → Prop) (pc pc' : Pc) : Prop :=
  pc'.poolOf = pc.poolOf ∧ (pc.wf = true → pc'.wf = true) ∧ (pc'.cls = pc.cls ∨ (pc.cls = .neutral ∧ ∃ n, P n ∧ pc'.cls = .smSet n))

/-- What a move of the environment does to the pool, when it configures no maximum that fails `P`. -/
structure PEnv (P : Nat → Prop) (s X : State) : Prop where
  pool : PoolSame s X
  pcs : ∀ b, EnvMove P (s.pcAt b) (X.pcAt b)

theorem PEnv.po {P : Nat → Prop} {s X : State} (h : PEnv P s X) (b : Nat) : X.po b = s.po b := (h.pcs b).1

theorem PEnv.cl {P : Nat → Prop} {s X : State} (h : PEnv P s X) (b : Nat) :
    X.cl b = s.cl b ∨ (s.cl b = .neutral ∧ ∃ n, P n ∧ X.cl b = .smSet n) :=
  (h.pcs b).2.2

end Desync
