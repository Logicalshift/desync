/-
What every rule of `Step` and every move of the environment leave alone, stated once: the program counters of the other
activities (their records may change: `notify` sets the `woken` flag of another activity), the fields no move of the
environment touches, the fields `setChild`, `newJob` and `dequeue` do not write; and how to read the mover's next program
counter off a rule's post-state.
-/
import DesyncModel.Inv.Acts
import DesyncModel.EnvRel

namespace Desync
open Gen

theorem pcAt_append_one {s X : State} {n : Act} (hX : X.acts = s.acts ++ [n]) (b : Nat) :
    X.pcAt b = if b = s.acts.length then n.pc else s.pcAt b := by
  simp only [State.pcAt, hX, getElem?_append_one]
  by_cases e : b = s.acts.length <;> simp [e]

@[simp] theorem pcAt_regGate (s : State) (gate : Option Nat) (op b : Nat) : (s.regGate gate op).pcAt b = s.pcAt b := by
  rcases s.regGate_cases gate op with h | ⟨g, gt, -, h⟩ <;> rw [h]; rfl

theorem pcAt_of_ge {s : State} {b : Nat} (h : s.acts.length ≤ b) : s.pcAt b = .dead := by
  simp [State.pcAt, List.getElem?_eq_none h]

/-- A step of `a` moves no other activity; the only new one is the pool thread that `stSpawn` starts, waiting for its first message. -/
theorem Step.pcAt_ne {s s' : State} {a : Nat} {act : Act} (h : Step s a act s') {b : Nat} (hb : b ≠ a) :
    s'.pcAt b = s.pcAt b ∨ (b = s.acts.length ∧ ∃ p, s'.pcAt b = .ptRecv p) := by
  cases h
  case stSpawn =>
    rw [pcAt_goto_ne _ hb, pcAt_append_one rfl]; split
    · next e => exact .inr ⟨e, _, rfl⟩
    · exact .inl rfl
  case dqDequeue => exact .inl ((pcAt_goto_ne _ hb).trans (pcAt_dequeue _ _ _ _))
  all_goals exact .inl (by
    simp only [pcAt_goto_ne _ hb, pcAt_setAct_ne _ hb, pcAt_setQ, pcAt_setJob, pcAt_setHolder, pcAt_setWoken, pcAt_notify, pcAt_setPThr,
      pcAt_setFut, pcAt_setGate, pcAt_takeReady, pcAt_dropReady, pcAt_setJobPh, pcAt_pushFront, pcAt_pushBack, pcAt_setQState, pcAt_dequeue,
      pcAt_setSf, pcAt_newJob, pcAt_regGate] <;> rfl)

/-- a property of program counters that `dead` does not have carries over, for every activity but the mover -/
theorem Step.pcAt_ne_of {s s' : State} {a : Nat} {act : Act} (h : Step s a act s') {b : Nat} (hb : b ≠ a) {P : Pc → Prop}
    (hd : ¬ P .dead) (hp : P (s.pcAt b)) : P (s'.pcAt b) := by
  rcases h.pcAt_ne hb with e | ⟨rfl, -⟩
  · rwa [e]
  · rw [pcAt_len] at hp; exact absurd hp hd

/-- the fields that no move of the environment touches -/
structure SameCore (s X : State) : Prop where
  qs : X.qs = s.qs
  jobs : X.jobs = s.jobs
  latches : X.latches = s.latches
  doubles : X.doubles = s.doubles
  pthreads : X.pthreads = s.pthreads
  threadsVec : X.threadsVec = s.threadsVec
  threadsLock : X.threadsLock = s.threadsLock
  schedule : X.schedule = s.schedule
  schedLock : X.schedLock = s.schedLock
  maxThreads : X.maxThreads = s.maxThreads
  readyLock : X.readyLock = s.readyLock
  ready : X.ready = s.ready
  dropped : X.dropped = s.dropped
  parkToken : X.parkToken = s.parkToken
  taskWoken : X.taskWoken = s.taskWoken
  holder : X.holder = s.holder

theorem SameCore.refl (s : State) : SameCore s s := ⟨rfl, rfl, rfl, rfl, rfl, rfl, rfl, rfl, rfl, rfl, rfl, rfl, rfl, rfl, rfl, rfl⟩

theorem SameCore.of_acts {s X : State} {l : List Act} {n : Nat} (h : X = { s with acts := l, nextOp := n }) : SameCore s X := by
  subst h; exact ⟨rfl, rfl, rfl, rfl, rfl, rfl, rfl, rfl, rfl, rfl, rfl, rfl, rfl, rfl, rfl, rfl⟩

theorem SameCore.trans {s X Y : State} (h1 : SameCore s X) (h2 : SameCore X Y) : SameCore s Y :=
  ⟨h2.qs.trans h1.qs, h2.jobs.trans h1.jobs, h2.latches.trans h1.latches, h2.doubles.trans h1.doubles, h2.pthreads.trans h1.pthreads,
   h2.threadsVec.trans h1.threadsVec, h2.threadsLock.trans h1.threadsLock, h2.schedule.trans h1.schedule, h2.schedLock.trans h1.schedLock,
   h2.maxThreads.trans h1.maxThreads, h2.readyLock.trans h1.readyLock, h2.ready.trans h1.ready, h2.dropped.trans h1.dropped,
   h2.parkToken.trans h1.parkToken, h2.taskWoken.trans h1.taskWoken, h2.holder.trans h1.holder⟩

theorem SameCore.setAct (s : State) (a : Nat) (v : Act) : SameCore s (s.setAct a v) := .of_acts rfl

theorem SameCore.goto (s : State) (a : Nat) (pc : Pc) : SameCore s (s.goto a pc) := by
  unfold State.goto; split
  · exact .setAct s a _
  · exact .refl s

theorem SameCore.setChild (s : State) (p c : Option Nat) : SameCore s (s.setChild p c) := by
  unfold State.setChild; split
  · split
    · exact .setAct s _ _
    · exact .refl s
  · exact .refl s

/-- a call creates result slots, a sync-future or a gate, or opens a gate, and nothing else, before its activity starts -/
theorem Starts.sameCore {s s0 : State} {c : Call} {pc : Pc} {once : Bool} (h : Starts s c s0 pc once) : SameCore s s0 ∧ s0.acts = s.acts := by
  cases h
  case after q gate =>
    rcases State.regGate_cases ({ s with futs := s.futs ++ [Fut.fresh q], opFut := (s.nextOp, s.futs.length) :: s.opFut } : State) (some gate) s.nextOp
      with e | ⟨g, gt, -, e⟩ <;> rw [e] <;> exact ⟨⟨rfl, rfl, rfl, rfl, rfl, rfl, rfl, rfl, rfl, rfl, rfl, rfl, rfl, rfl, rfl, rfl⟩, rfl⟩
  all_goals exact ⟨⟨rfl, rfl, rfl, rfl, rfl, rfl, rfl, rfl, rfl, rfl, rfl, rfl, rfl, rfl, rfl, rfl⟩, rfl⟩

theorem EnvStep.sameCore {s s' : State} {l : Label} (h : EnvStep s l s') : SameCore s s' := by
  cases h
  case invoke hst => rw [addAct_fst]; exact hst.sameCore.1.trans ((SameCore.of_acts rfl).trans (.setChild _ _ _))
  case ret => exact (SameCore.setAct _ _ _).trans (.setChild _ _ _)
  all_goals exact .goto _ _ _

@[simp] theorem pcAt_setChild (s : State) (p c : Option Nat) (b : Nat) : (s.setChild p c).pcAt b = s.pcAt b := by
  unfold State.setChild; split
  · split
    · next pv hpv => exact pcAt_setAct_samepc s _ pv _ hpv (by rfl) b
    · rfl
  · rfl

theorem pcAt_addAct (s0 : State) (t : Nat) (parent : Option Nat) (pc : Pc) (once : Bool) (b : Nat) :
    (addAct s0 t parent pc once).1.pcAt b = if b = s0.acts.length then pc else s0.pcAt b := by
  rw [addAct_fst, pcAt_setChild, pcAt_append_one rfl]; rfl

/-- A relation between the program counter an activity has before and after a move of the environment: the moves go from a closure
body to its continuation, from a blocked wait to its retry, from a returned call to none, and from none to the first program
counter of a call.  Invariants that see the activities only through a classification of their program counters need no more. -/
structure EnvPcRel (R : Pc → Pc → Prop) : Prop where
  refl : ∀ pc, R pc pc
  body : ∀ op k, R (.body op k) k
  parked : ∀ q j k, R (.rjParked q j k) (.rjParkCheck q j k)
  pfBlocked : ∀ f, R (.pfBlocked f) (.pfPoll f)
  sfBlocked : ∀ u, R (.sfBlocked u) (.sfPoll u)
  ret : R .ret .dead
  entry : ∀ {s c s0 pc once}, Starts s c s0 pc once → R .dead pc

/-- The same when only calls that satisfy `ok` are made: the first program counter of a call has to be related to `dead` for those
calls only. -/
theorem EnvStep.pcAt_rel_ok {ok : Call → Prop} {R : Pc → Pc → Prop} (refl : ∀ pc, R pc pc) (body : ∀ op k, R (.body op k) k)
    (parked : ∀ q j k, R (.rjParked q j k) (.rjParkCheck q j k)) (pfBlocked : ∀ f, R (.pfBlocked f) (.pfPoll f))
    (sfBlocked : ∀ u, R (.sfBlocked u) (.sfPoll u)) (ret : R .ret .dead)
    (entry : ∀ {s c s0 pc once}, Starts s c s0 pc once → ok c → R .dead pc)
    {s s' : State} {l : Label} (h : EnvStep s l s') (hl : ∀ t p c, l = .invoke t p c → ok c) (b : Nat) : R (s.pcAt b) (s'.pcAt b) := by
  have move : ∀ {a act pc'}, s.acts[a]? = some act → R act.pc pc' → R (s.pcAt b) ((s.goto a pc').pcAt b) := by
    intro a act pc' ha hpc
    rw [pcAt_goto]; split
    · next e => rw [← e.1, pcAt_of ha]; exact hpc
    · exact refl _
  cases h
  case invoke hst =>
    rw [pcAt_addAct, pcAt_congr hst.sameCore.2.symm]; split
    · next e => rw [e, pcAt_len]; exact entry hst (hl _ _ _ rfl)
    · exact refl _
  case bodyEnd ha _ hpc => exact move ha (hpc ▸ body _ _)
  case ret a act ha hpc =>
    rw [pcAt_setChild, pcAt_setAct]; split
    · next e => rw [← e.1, pcAt_of ha, hpc]; exact ret
    · exact refl _
  case unpark ha hpc => exact move ha (hpc ▸ parked _ _ _)
  case repoll ha hpc => exact move ha (hpc ▸ pfBlocked _)
  case repollSf ha hpc => exact move ha (hpc ▸ sfBlocked _)

theorem EnvStep.pcAt_rel {R : Pc → Pc → Prop} (hR : EnvPcRel R) {s s' : State} {l : Label} (h : EnvStep s l s') (b : Nat) :
    R (s.pcAt b) (s'.pcAt b) :=
  h.pcAt_rel_ok (ok := fun _ => True) hR.refl hR.body hR.parked hR.pfBlocked hR.sfBlocked hR.ret (fun hst _ => hR.entry hst)
    (fun _ _ _ _ => trivial) b

theorem EnvStep.pcAt_blind {α : Type} {C : Pc → α} (hC : EnvPcRel (fun pc pc' => C pc' = C pc)) {s s' : State} {l : Label}
    (h : EnvStep s l s') (b : Nat) : C (s'.pcAt b) = C (s.pcAt b) := h.pcAt_rel hC b

theorem State.setChild_eq (s : State) (p c : Option Nat) : ∃ A, s.setChild p c = { s with acts := A } := by
  unfold State.setChild
  split
  · split
    · exact ⟨_, rfl⟩
    · exact ⟨s.acts, rfl⟩
  · exact ⟨s.acts, rfl⟩

@[simp] theorem futs_setChild (s : State) (p c : Option Nat) : (s.setChild p c).futs = s.futs := by
  obtain ⟨A, e⟩ := s.setChild_eq p c; rw [e]
@[simp] theorem sfs_setChild (s : State) (p c : Option Nat) : (s.setChild p c).sfs = s.sfs := by
  obtain ⟨A, e⟩ := s.setChild_eq p c; rw [e]

@[simp] theorem acts_length_goto (s : State) (a : Nat) (pc : Pc) : (s.goto a pc).acts.length = s.acts.length := by
  unfold State.goto; split
  · simp [State.setAct]
  · rfl

theorem Step.acts_length_le {s s' : State} {a : Nat} {act : Act} (h : Step s a act s') : s.acts.length ≤ s'.acts.length := by
  cases h
  all_goals simp [State.setAct, dequeue_acts]

@[simp] theorem acts_length_setChild (s : State) (p c : Option Nat) : (s.setChild p c).acts.length = s.acts.length := by
  unfold State.setChild; split
  · split
    · simp [State.setAct]
    · rfl
  · rfl

theorem EnvStep.acts_length_le {s s' : State} {l : Label} (he : EnvStep s l s') : s.acts.length ≤ s'.acts.length := by
  cases he
  case invoke hst => rw [addAct_fst, acts_length_setChild, ← hst.sameCore.2]; simp
  case ret => rw [acts_length_setChild]; simp [State.setAct]
  all_goals rw [acts_length_goto]; exact Nat.le_refl _

/-- The activity that steps is still there afterwards.  Taken before `cases` on the step, this is what `pcAt_goto_of_lt` and
`pcAt_setAct_of_lt` need to read the mover's next program counter off the rule's post-state. -/
theorem Step.lt_acts {s s' : State} {a : Nat} {act : Act} (ha : s.acts[a]? = some act) (hst : Step s a act s') : a < s'.acts.length :=
  Nat.lt_of_lt_of_le (lt_of_getElem?_some ha) hst.acts_length_le

theorem pcAt_goto_of_lt {X : State} {a : Nat} {pc : Pc} (h : a < (X.goto a pc).acts.length) : (X.goto a pc).pcAt a = pc :=
  pcAt_goto_self pc (by simpa using h)

theorem pcAt_setAct_of_lt {X : State} {a : Nat} {v : Act} (h : a < (X.setAct a v).acts.length) : (X.setAct a v).pcAt a = v.pc :=
  pcAt_setAct_self v (by simpa [State.setAct] using h)

/-- a classification of program counters that cannot tell a fresh pool thread from no activity is the same, for every
activity but the mover, before and after a step -/
theorem Step.class_ne {α : Type} {C : Pc → α} (hC : ∀ p, C (.ptRecv p) = C .dead) {s s' : State} {a : Nat} {act : Act}
    (h : Step s a act s') {b : Nat} (hb : b ≠ a) : C (s'.pcAt b) = C (s.pcAt b) := by
  rcases h.pcAt_ne hb with e | ⟨rfl, p, e⟩
  · rw [e]
  · rw [e, hC, pcAt_len]

theorem Step.class_upd {α : Type} {C : Pc → α} (hC : ∀ p, C (.ptRecv p) = C .dead) {s s' : State} {a : Nat} {act : Act}
    (h : Step s a act s') (b : Nat) : C (s'.pcAt b) = if b = a then C (s'.pcAt a) else C (s.pcAt b) := by
  split
  · next e => rw [e]
  · next e => exact h.class_ne hC e

theorem Step.class_eq {α : Type} {C : Pc → α} (hC : ∀ p, C (.ptRecv p) = C .dead) {s s' : State} {a : Nat} {act : Act}
    (h : Step s a act s') (hself : C (s'.pcAt a) = C (s.pcAt a)) (b : Nat) : C (s'.pcAt b) = C (s.pcAt b) := by
  by_cases hb : b = a
  · rw [hb, hself]
  · exact h.class_ne hC hb

end Desync
