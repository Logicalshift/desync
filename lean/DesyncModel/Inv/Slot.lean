/-
future_sync starts its operation only inside its slot (C08).
The user operation of a `SyncFuture` is begun (`userBegun`) only after the slot job has sent `queue_ready` (`readySent`), and
`queue_ready` is sent only by the slot job when it is first run (`begun`).  With C02 (a job begins only after everything accepted
earlier on its object has ended) the operation therefore never starts before its turn.
-/
import DesyncModel.Inv.JobReach
import DesyncModel.Inv.StepTables
namespace Desync
open Gen

/-- a slot job of sync-future `u` has been run for the first time (its closure invoked) -/
def slotBegun (s : State) (u : Nat) : Prop := ∃ (j : Nat) (jb : Job) (r : Nat), s.jobs[j]? = some jb ∧ jb.kind = JobKind.slot u r ∧ jb.begun = true

theorem slotBegun_mono {s X : State} (hm : JobMono s X) {u : Nat} (h : slotBegun s u) : slotBegun X u := by
  obtain ⟨j, jb, r, h1, h2, h3⟩ := h
  obtain ⟨jb', a1, a2, _, a4, _⟩ := hm j jb h1
  exact ⟨j, jb', r, a1, by rw [a2]; exact h2, a4 h3⟩

/-- the user operation of a `future_sync` has been begun only after `queue_ready` was sent, and `queue_ready` is sent only once a slot job
of the sync-future has begun -/
def SlotOk (s : State) (u : Nat) (sf : SyncFut) : Prop :=
  (sf.userBegun = true → sf.readySent = true) ∧ (sf.readySent = true → slotBegun s u)

theorem SlotOk.mono {s X : State} {u : Nat} {sf : SyncFut} (h : SlotOk s u sf) (hm : JobMono s X) : SlotOk X u sf :=
  ⟨h.1, fun hr => slotBegun_mono hm (h.2 hr)⟩

/-- every sync-future starts its operation only inside its slot -/
def SlotInv (s : State) : Prop := ∀ (u : Nat) (sf : SyncFut), s.sfs[u]? = some sf → SlotOk s u sf

theorem Step.slotInv {s s' : State} {a : Nat} {act : Act} (h : SlotInv s) (hst : Step s a act s') : SlotInv s' := by
  have hm := hst.jobMono
  intro i x hi
  rcases hst.sfs_cases with e | ⟨u, sf, v, hu, e, -, -, -, -, hR0, hR, hB⟩
  · exact (h i x (e ▸ hi)).mono hm
  · rcases getElem?_set_cases (e ▸ hi) with ⟨rfl, rfl⟩ | hi
    · exact ⟨fun hb => (hB hb).elim (fun h1 => hR0 ((h i sf hu).1 h1)) id,
        fun hr => (hR hr).elim (fun h1 => slotBegun_mono hm ((h i sf hu).2 h1)) id⟩
    · exact (h i x hi).mono hm

theorem EnvStep.slotInv {s s' : State} {l : Label} (h : SlotInv s) (he : EnvStep s l s') : SlotInv s' := by
  obtain ⟨-, ls, -, e, -, hl⟩ := he.futs_sfs
  intro u sf hu
  rcases getElem?_append_cases (e ▸ hu) with hu | ⟨-, hm⟩
  · exact (h u sf hu).mono (.same he.sameCore.jobs)
  · obtain ⟨-, -, -, hr, hb⟩ := hl sf hm
    exact ⟨fun x => (nomatch hb.symm.trans x), fun x => (nomatch hr.symm.trans x)⟩

theorem slotInv_reachable {s : State} (hr : Reachable s) : SlotInv s :=
  Reachable.invariant (fun _ _ _ u sf hu => by simp [initStateP, initState] at hu) (fun _ h _ _ hst => hst.slotInv h)
    (fun _ h he => he.slotInv h) hr

/-- **The operation of `future_sync` is started only inside its slot**: in every reachable state, if the user operation of a
sync-future has been begun then a slot job of that sync-future has been begun — so (C02, `inOrder_reachable`) every
operation accepted on the object before that slot job has ended. -/
theorem future_sync_starts_in_its_slot {s : State} (hr : Reachable s) {u : Nat} {sf : SyncFut} (hu : s.sfs[u]? = some sf) (hb : sf.userBegun = true) :
    ∃ (j : Nat) (jb : Job) (r : Nat), s.jobs[j]? = some jb ∧ jb.kind = JobKind.slot u r ∧ jb.begun = true ∧
      ∀ (j1 : Nat) (b1 : Job), s.jobs[j1]? = some b1 → b1.q = jb.q → j1 < j → b1.ended = true := by
  have h := slotInv_reachable hr u sf hu
  obtain ⟨j, jb, r, h1, h2, h3⟩ := h.2 (h.1 hb)
  exact ⟨j, jb, r, h1, h2, h3, fun j1 b1 hb1 hq hlt => inOrder_reachable hr j1 j b1 jb hb1 h1 hq hlt h3⟩

/-! `slotBegun` under two single updates; `Step.slotInv` uses `slotBegun_mono` only. -/

theorem slotBegun_setJobPh {s : State} {j : Nat} {ph : Phase} {u : Nat} (h : slotBegun s u) : slotBegun (s.setJobPh j ph) u :=
  slotBegun_mono (JobMono.setJobPh s j ph) h

theorem slotBegun_append {s X : State} {l : List Job} (hX : X.jobs = s.jobs ++ l) {u : Nat} (h : slotBegun s u) : slotBegun X u :=
  slotBegun_mono (JobMono.append hX) h

end Desync
