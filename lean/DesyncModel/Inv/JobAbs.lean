/-
The job invariant and the order invariant over abstract projections, with one lemma per thing that can happen to a job.  Every
event changes each projection at one argument at most, `f' i = if i = j then x else f i`; the `upd_*` lemmas (`Lemmas.lean`)
read such an equation.
-/
import DesyncModel.Lemmas
import DesyncModel.State

namespace Desync
open Gen

/-- `R a` = the job activity `a` is running and the queue it runs it for;   `J j` = phase and queue of job `j`;
`Q q` = the job list of queue `q`;   `O j` = is job `j` open (begun and not ended). -/
structure JobInvF (R : Nat → Option (Nat × Nat)) (J : Nat → Option (Phase × Nat)) (Q : Nat → Option (List Nat)) (O : Nat → Bool) : Prop where
  /-- the job an activity has in hand (being run or polled, or kept across a park) is marked as held by that activity, and belongs to the
  queue the activity runs it for -/
  run1 : ∀ a j q, R a = some (j, q) → J j = some (.held a, q)
  /-- conversely, a job marked as held by an activity is the one that activity has in hand, for the job's own queue -/
  run2 : ∀ a j q, J j = some (.held a, q) → R a = some (j, q)
  /-- a job listed in a queue is marked as queued and belongs to that queue -/
  queued : ∀ q l j, Q q = some l → j ∈ l → J j = some (.queued, q)
  /-- no job is listed twice in a queue -/
  nodup : ∀ q l, Q q = some l → l.Nodup
  /-- conversely, a job marked as queued is in the list of its queue: the lists are exact -/
  member : ∀ j q, J j = some (.queued, q) → ∃ l, Q q = some l ∧ j ∈ l
  /-- an open job is in the hands of a runner, or it is the head of its queue (a suspended future operation) -/
  open1 : ∀ j, O j = true → (∃ a q, J j = some (.held a, q)) ∨ (∃ q l, J j = some (.queued, q) ∧ Q q = some (j :: l))
  /-- while a job of a queue is in the hands of a runner no queued job of that queue is open -/
  open4 : ∀ j1 j2 a q, J j1 = some (.held a, q) → J j2 = some (.queued, q) → O j2 = false

/-- at most one job per queue is in the hands of a runner (supplied by the run-right invariant) -/
def HeldExcl (J : Nat → Option (Phase × Nat)) : Prop :=
  ∀ j1 j2 a1 a2 q, J j1 = some (.held a1, q) → J j2 = some (.held a2, q) → j1 = j2

theorem JobInvF.congr {R R' J J' Q Q' O O'} (h : JobInvF R J Q O) (hR : ∀ b, R' b = R b) (hJ : ∀ i, J' i = J i) (hQ : ∀ i, Q' i = Q i)
    (hO : ∀ i, O' i = O i) : JobInvF R' J' Q' O' := by
  rw [funext hR, funext hJ, funext hQ, funext hO]; exact h

theorem JobInvF.open_unique {R J Q O} (h : JobInvF R J Q O) (hx : HeldExcl J) {j1 j2 q : Nat} {p1 p2 : Phase}
    (h1 : J j1 = some (p1, q)) (h2 : J j2 = some (p2, q)) (o1 : O j1 = true) (o2 : O j2 = true) : j1 = j2 := by
  rcases h.open1 j1 o1 with ⟨a1, q1, e1⟩ | ⟨q1, l1, e1, hl1⟩ <;> rcases h.open1 j2 o2 with ⟨a2, q2, e2⟩ | ⟨q2, l2, e2, hl2⟩ <;>
    rw [h1] at e1 <;> rw [h2] at e2 <;> cases e1 <;> cases e2
  · exact hx j1 j2 a1 a2 q h1 h2
  · have := h.open4 j1 j2 a1 q h1 h2; rw [o2] at this; cases this
  · have := h.open4 j2 j1 a2 q h2 h1; rw [o1] at this; cases this
  · rw [hl1] at hl2; cases hl2; rfl

theorem JobInvF.frameO {R J Q O O'} (h : JobInvF R J Q O)
    (hO : ∀ i, O' i = true → O i = true ∨ ∃ a q, J i = some (.held a, q)) : JobInvF R J Q O' := by
  refine ⟨h.run1, h.run2, h.queued, h.nodup, h.member, fun j hj => ?_, fun j1 j2 a q hh hq => Bool.eq_false_iff.mpr fun hx => ?_⟩
  · exact (hO j hj).elim (h.open1 j) .inl
  · rcases hO j2 hx with ho | ⟨a', q', hh'⟩
    · have := h.open4 j1 j2 a q hh hq; rw [ho] at this; cases this
    · rw [hq] at hh'; cases hh'

/-- "`b` runs `j'` for `q'`" and "`j'` is held by `b` and belongs to `q'`" stay equivalent when the runner `a` of job `j` lets go of it -/
theorem JobInvF.run_release {R J Q O} {R' J' : Nat → _} {a j q : Nat} {x : Option (Phase × Nat)} (h : JobInvF R J Q O) (hold : R a = some (j, q))
    (hR : ∀ b, R' b = if b = a then none else R b) (hJ : ∀ i, J' i = if i = j then x else J i)
    (hx : ∀ b q', x ≠ some (.held b, q')) (b j' q' : Nat) :
    R' b = some (j', q') ↔ J' j' = some (.held b, q') := by
  constructor
  · intro hb
    obtain ⟨hne, hb⟩ := upd_old hR hb nofun
    have hh := h.run1 b j' q' hb
    rwa [upd_ne hJ]; rintro rfl; rw [h.run1 a j' q hold] at hh; cases hh; exact hne rfl
  · intro hj'
    obtain ⟨hne, hj'⟩ := upd_old hJ hj' (hx b q')
    have hr := h.run2 b j' q' hj'
    rwa [upd_ne hR]; rintro rfl; rw [hold] at hr; cases hr; exact hne rfl

/-- the same two clauses when activity `a`, which ran no job, takes job `j`, which nobody ran -/
theorem JobInvF.run_acquire {R J Q O} {R' J' : Nat → _} {a j q : Nat} (h : JobInvF R J Q O) (hidle : R a = none)
    (hfree : ∀ b q', J j ≠ some (.held b, q'))
    (hR : ∀ b, R' b = if b = a then some (j, q) else R b) (hJ : ∀ i, J' i = if i = j then some (.held a, q) else J i) (b j' q' : Nat) :
    R' b = some (j', q') ↔ J' j' = some (.held b, q') := by
  constructor
  · intro hb
    rcases upd_cases hR hb with ⟨rfl, e⟩ | ⟨-, hb⟩
    · cases e; exact upd_self hJ
    · have hh := h.run1 b j' q' hb
      rwa [upd_ne hJ]; rintro rfl; exact hfree b q' hh
  · intro hj'
    rcases upd_cases hJ hj' with ⟨rfl, e⟩ | ⟨-, hj'⟩
    · cases e; exact upd_self hR
    · have hr := h.run2 b j' q' hj'
      rwa [upd_ne hR]; rintro rfl; rw [hidle] at hr; cases hr

/-- the runner `a` of job `j` finishes or destroys it -/
theorem JobInvF.retire {R R' J J' Q O O'} {a j q : Nat} (h : JobInvF R J Q O) (hold : R a = some (j, q))
    (hR : ∀ b, R' b = if b = a then none else R b)
    (hJ : ∀ i, J' i = if i = j then some (.done, q) else J i)
    (hO : ∀ i, O' i = if i = j then false else O i) : JobInvF R' J' Q O' := by
  have hja := h.run1 a j q hold
  have hrun := h.run_release hold hR hJ (fun _ _ => nofun)
  refine ⟨fun b j' q' => (hrun b j' q').mp, fun b j' q' => (hrun b j' q').mpr, ?_, h.nodup, ?_, ?_, ?_⟩
  · intro q' l j' hl hm
    have hq := h.queued q' l j' hl hm
    rwa [upd_ne hJ]; rintro rfl; rw [hja] at hq; cases hq
  · intro i q' hi
    exact h.member i q' (upd_old hJ hi nofun).2
  · intro i hi
    obtain ⟨hne, hi⟩ := upd_old hO hi nofun
    rw [upd_ne hJ hne]; exact h.open1 i hi
  · intro j1 j2 a' q' hh hq'
    obtain ⟨hne, hq'⟩ := upd_old hJ hq' nofun
    rw [upd_ne hO hne]; exact h.open4 j1 j2 a' q' (upd_old hJ hh nofun).2 hq'

/-- the runner `a` of job `j` puts it back at the front of its queue -/
theorem JobInvF.requeue {R R' J J' Q Q' O} {a j q : Nat} {l0 : List Nat} (h : JobInvF R J Q O) (hx : HeldExcl J)
    (hold : R a = some (j, q)) (hq0 : Q q = some l0)
    (hR : ∀ b, R' b = if b = a then none else R b)
    (hJ : ∀ i, J' i = if i = j then some (.queued, q) else J i)
    (hQ : ∀ i, Q' i = if i = q then some (j :: l0) else Q i) : JobInvF R' J' Q' O := by
  have hja := h.run1 a j q hold
  have hjl : j ∉ l0 := fun hm => by have := h.queued q l0 j hq0 hm; rw [hja] at this; cases this
  have hrun := h.run_release hold hR hJ (fun _ _ => nofun)
  refine ⟨fun b j' q' => (hrun b j' q').mp, fun b j' q' => (hrun b j' q').mpr, ?_, ?_, ?_, ?_, ?_⟩
  · intro q' l j' hl hm
    rcases upd_cases hQ hl with ⟨rfl, e⟩ | ⟨-, hl⟩
    · cases e
      rcases List.mem_cons.mp hm with rfl | hm
      · exact upd_self hJ
      · rw [upd_ne hJ fun e => hjl (e ▸ hm)]; exact h.queued _ l0 j' hq0 hm
    · have hq := h.queued q' l j' hl hm
      rwa [upd_ne hJ]; rintro rfl; rw [hja] at hq; cases hq
  · intro q' l hl
    rcases upd_cases hQ hl with ⟨-, e⟩ | ⟨-, hl⟩
    · cases e; exact List.nodup_cons.mpr ⟨hjl, h.nodup q l0 hq0⟩
    · exact h.nodup q' l hl
  · intro i q' hi
    rcases upd_cases hJ hi with ⟨rfl, e⟩ | ⟨-, hi⟩
    · cases e; exact ⟨_, upd_self hQ, List.mem_cons_self ..⟩
    · obtain ⟨l, hl, hm⟩ := h.member i q' hi
      by_cases hqq : q' = q
      · subst hqq; cases hl.symm.trans hq0; exact ⟨_, upd_self hQ, List.mem_cons_of_mem _ hm⟩
      · exact ⟨l, (upd_ne hQ hqq).trans hl, hm⟩
  · intro i hi
    by_cases hij : i = j
    · subst hij; exact .inr ⟨q, l0, upd_self hJ, upd_self hQ⟩
    · rw [upd_ne hJ hij]
      refine (h.open1 i hi).imp id fun ⟨q', l, hq', hl⟩ => ?_
      -- while `j` was held no queued job of `q` was open
      have hqq : q' ≠ q := by rintro rfl; have := h.open4 j i a q' hja hq'; rw [hi] at this; cases this
      exact ⟨q', l, hq', (upd_ne hQ hqq).trans hl⟩
  · intro j1 j2 a' q' hh hq'
    obtain ⟨hne1, hh⟩ := upd_old hJ hh nofun
    rcases upd_cases hJ hq' with ⟨rfl, e⟩ | ⟨-, hq'⟩
    · cases e; exact absurd (hx j1 _ a' a _ hh hja) hne1
    · exact h.open4 j1 j2 a' q' hh hq'

/-- the head `j` of queue `q` goes to activity `a`, which ran no job -/
theorem JobInvF.take {R R' J J' Q Q' O} {a j q : Nat} {rest : List Nat} (h : JobInvF R J Q O)
    (hidle : R a = none) (hhead : Q q = some (j :: rest))
    (hR : ∀ b, R' b = if b = a then some (j, q) else R b)
    (hJ : ∀ i, J' i = if i = j then some (.held a, q) else J i)
    (hQ : ∀ i, Q' i = if i = q then some rest else Q i) : JobInvF R' J' Q' O := by
  have hn := List.nodup_cons.mp (h.nodup q _ hhead)
  have hjq := h.queued q _ j hhead (List.mem_cons_self ..)
  have hrun := h.run_acquire hidle (fun b q' e => by rw [hjq] at e; cases e) hR hJ
  refine ⟨fun b j' q' => (hrun b j' q').mp, fun b j' q' => (hrun b j' q').mpr, ?_, ?_, ?_, ?_, ?_⟩
  · intro q' l j' hl hm
    rcases upd_cases hQ hl with ⟨rfl, e⟩ | ⟨hne, hl⟩
    · cases e; rw [upd_ne hJ fun e => hn.1 (e ▸ hm)]; exact h.queued _ _ j' hhead (List.mem_cons_of_mem _ hm)
    · have hq := h.queued q' l j' hl hm
      rwa [upd_ne hJ]; rintro rfl; rw [hjq] at hq; cases hq; exact hne rfl
  · intro q' l hl
    rcases upd_cases hQ hl with ⟨-, e⟩ | ⟨-, hl⟩
    · cases e; exact hn.2
    · exact h.nodup q' l hl
  · intro i q' hi
    obtain ⟨hne, hi⟩ := upd_old hJ hi nofun
    obtain ⟨l, hl, hm⟩ := h.member i q' hi
    by_cases hqq : q' = q
    · subst hqq; cases hl.symm.trans hhead; exact ⟨rest, upd_self hQ, (List.mem_cons.mp hm).resolve_left hne⟩
    · exact ⟨l, (upd_ne hQ hqq).trans hl, hm⟩
  · intro i hi
    by_cases hij : i = j
    · subst hij; exact .inl ⟨a, q, upd_self hJ⟩
    · rw [upd_ne hJ hij]
      refine (h.open1 i hi).imp id fun ⟨q', l, hq', hl⟩ => ?_
      have hqq : q' ≠ q := by rintro rfl; rw [hhead] at hl; cases hl; exact hij rfl
      exact ⟨q', l, hq', (upd_ne hQ hqq).trans hl⟩
  · intro j1 j2 a' q' hh hq'
    obtain ⟨hne2, hq'⟩ := upd_old hJ hq' nofun
    rcases upd_cases hJ hh with ⟨rfl, e⟩ | ⟨-, hh⟩
    · cases e
      -- `j2` is queued in `q` and is not the old head: it cannot be open
      refine Bool.eq_false_iff.mpr fun ho => ?_
      rcases h.open1 j2 ho with ⟨a', q', hh'⟩ | ⟨q', l, hq2, hl⟩
      · rw [hq'] at hh'; cases hh'
      · rw [hq'] at hq2; cases hq2; rw [hhead] at hl; cases hl; exact hne2 rfl
    · exact h.open4 j1 j2 a' q' hh hq'

/-- activity `a`, which ran no job, creates job `n` for the empty queue `q` and runs it -/
theorem JobInvF.newHeld {R R' J J' Q O O'} {a n q : Nat} (h : JobInvF R J Q O)
    (hidle : R a = none) (hfresh : J n = none) (hempty : Q q = some [])
    (hR : ∀ b, R' b = if b = a then some (n, q) else R b)
    (hJ : ∀ i, J' i = if i = n then some (.held a, q) else J i)
    (hO : ∀ i, i ≠ n → O' i = O i) : JobInvF R' J' Q O' := by
  have hrun := h.run_acquire hidle (fun b q' e => by rw [hfresh] at e; cases e) hR hJ
  refine ⟨fun b j' q' => (hrun b j' q').mp, fun b j' q' => (hrun b j' q').mpr, ?_, h.nodup, ?_, ?_, ?_⟩
  · intro q' l j' hl hm
    have hq := h.queued q' l j' hl hm
    rwa [upd_ne hJ]; rintro rfl; rw [hfresh] at hq; cases hq
  · intro i q' hi
    exact h.member i q' (upd_old hJ hi nofun).2
  · intro i hi
    by_cases hin : i = n
    · subst hin; exact .inl ⟨a, q, upd_self hJ⟩
    · rw [hO i hin] at hi; rw [upd_ne hJ hin]; exact h.open1 i hi
  · intro j1 j2 a' q' hh hq'
    obtain ⟨hne2, hq'⟩ := upd_old hJ hq' nofun
    rw [hO j2 hne2]
    rcases upd_cases hJ hh with ⟨-, e⟩ | ⟨-, hh⟩
    · cases e
      obtain ⟨l, hl, hm⟩ := h.member j2 _ hq'
      rw [hempty] at hl; cases hl; cases hm
    · exact h.open4 j1 j2 a' q' hh hq'

/-- job `n` is created at the back of queue `q` -/
theorem JobInvF.newQueued {R J J' Q Q' O O'} {n q : Nat} {l0 : List Nat} (h : JobInvF R J Q O)
    (hfresh : J n = none) (hq : Q q = some l0)
    (hJ : ∀ i, J' i = if i = n then some (.queued, q) else J i)
    (hQ : ∀ i, Q' i = if i = q then some (l0 ++ [n]) else Q i)
    (hO : ∀ i, O' i = if i = n then false else O i) : JobInvF R J' Q' O' := by
  have hnl : n ∉ l0 := fun hm => by have := h.queued q l0 n hq hm; rw [hfresh] at this; cases this
  refine ⟨?_, ?_, ?_, ?_, ?_, ?_, ?_⟩
  · intro b j' q' hb
    have hh := h.run1 b j' q' hb
    rwa [upd_ne hJ]; rintro rfl; rw [hfresh] at hh; cases hh
  · intro b j' q' hj'
    exact h.run2 b j' q' (upd_old hJ hj' nofun).2
  · intro q' l j' hl hm
    rcases upd_cases hQ hl with ⟨rfl, e⟩ | ⟨-, hl⟩
    · cases e
      rcases List.mem_append.mp hm with hm | hm
      · rw [upd_ne hJ fun e => hnl (e ▸ hm)]; exact h.queued _ l0 j' hq hm
      · cases List.mem_singleton.mp hm; exact upd_self hJ
    · have hq1 := h.queued q' l j' hl hm
      rwa [upd_ne hJ]; rintro rfl; rw [hfresh] at hq1; cases hq1
  · intro q' l hl
    rcases upd_cases hQ hl with ⟨-, e⟩ | ⟨-, hl⟩
    · cases e
      refine List.nodup_append.mpr ⟨h.nodup q l0 hq, List.pairwise_singleton _ _, fun x hx y hy e => ?_⟩
      cases List.mem_singleton.mp hy; exact hnl (e ▸ hx)
    · exact h.nodup q' l hl
  · intro i q' hi
    rcases upd_cases hJ hi with ⟨rfl, e⟩ | ⟨-, hi⟩
    · cases e; exact ⟨_, upd_self hQ, List.mem_append_right _ (List.mem_singleton_self _)⟩
    · obtain ⟨l, hl, hm⟩ := h.member i q' hi
      by_cases hqq : q' = q
      · subst hqq; cases hl.symm.trans hq; exact ⟨_, upd_self hQ, List.mem_append_left _ hm⟩
      · exact ⟨l, (upd_ne hQ hqq).trans hl, hm⟩
  · intro i hi
    obtain ⟨hin, hi⟩ := upd_old hO hi nofun
    rw [upd_ne hJ hin]
    refine (h.open1 i hi).imp id fun ⟨q', l, hq', hl⟩ => ?_
    by_cases hqq : q' = q
    · subst hqq; cases hl.symm.trans hq; exact ⟨q', l ++ [n], hq', upd_self hQ⟩
    · exact ⟨q', l, hq', (upd_ne hQ hqq).trans hl⟩
  · intro j1 j2 a' q' hh hq'
    by_cases h2 : j2 = n
    · rw [h2, upd_self hO]
    · rw [upd_ne hO h2]; rw [upd_ne hJ h2] at hq'
      exact h.open4 j1 j2 a' q' (upd_old hJ hh nofun).2 hq'

/-- Job ids are allocated in scheduling order, a queue's list is increasing, the job in the hands of a runner is older than every
queued job of its queue, a finished job has ended, and a job has begun only if every older job of its queue has ended.
`B j`, `E j` = has job `j` begun / ended;   `N` = number of jobs created so far. -/
structure OrderInvF (J : Nat → Option (Phase × Nat)) (Q : Nat → Option (List Nat)) (B E : Nat → Bool) (N : Nat) : Prop where
  /-- every job that exists has an id below the next one to be given out, so a job scheduled later is younger than all of them -/
  bound : ∀ j pq, J j = some pq → j < N
  /-- a queue lists its jobs in increasing order of id, that is oldest first -/
  sorted : ∀ q l, Q q = some l → l.Pairwise (· < ·)
  /-- the job in the hands of a runner is older than every queued job of its queue -/
  heldFirst : ∀ j1 j2 a q, J j1 = some (.held a, q) → J j2 = some (.queued, q) → j1 < j2
  /-- a finished job has ended: its operation is not left open -/
  doneEnded : ∀ j q, J j = some (.done, q) → E j = true
  /-- a job has begun only if every older job of its queue has ended -/
  order : ∀ j1 j2 q p1 p2, j1 < j2 → J j1 = some (p1, q) → J j2 = some (p2, q) → B j2 = true → E j1 = true

theorem OrderInvF.congr {J J' Q Q' B B' E E' N N'} (h : OrderInvF J Q B E N) (hJ : ∀ i, J' i = J i) (hQ : ∀ i, Q' i = Q i) (hB : ∀ i, B' i = B i)
    (hE : ∀ i, E' i = E i) (hN : N' = N) : OrderInvF J' Q' B' E' N' := by
  rw [funext hJ, funext hQ, funext hB, funext hE, hN]; exact h

theorem OrderInvF.older_ended {J Q B E N} (hx : HeldExcl J) (h : OrderInvF J Q B E N)
    {j a q : Nat} (hh : J j = some (.held a, q)) {j1 : Nat} {p1 : Phase} (hlt : j1 < j) (h1 : J j1 = some (p1, q)) : E j1 = true := by
  cases p1 with
  | queued => have := h.heldFirst j j1 a q hh h1; omega
  | held a' => have := hx j1 j a' a q h1 hh; omega
  | done => exact h.doneEnded j1 q h1

theorem OrderInvF.frameBE {J Q B E B' E' N} (hx : HeldExcl J) (h : OrderInvF J Q B E N)
    (hB : ∀ i, B' i = true → B i = true ∨ ∃ a q, J i = some (.held a, q))
    (hE : ∀ i, E i = true → E' i = true) : OrderInvF J Q B' E' N := by
  refine ⟨h.bound, h.sorted, h.heldFirst, fun j q hd => hE j (h.doneEnded j q hd), ?_⟩
  intro j1 j2 q p1 p2 hlt h1 h2 hb
  apply hE
  rcases hB j2 hb with hb' | ⟨a, q', hh⟩
  · exact h.order j1 j2 q p1 p2 hlt h1 h2 hb'
  · rw [h2] at hh; cases hh
    exact h.older_ended hx h2 hlt h1

/-- a job that changes phase stays a job of its queue -/
theorem upd_phase {J J' : Nat → Option (Phase × Nat)} {j q : Nat} {p0 p0' : Phase} (hj : J j = some (p0, q))
    (hJ : ∀ i, J' i = if i = j then some (p0', q) else J i) {i q' : Nat} {p : Phase} (hi : J' i = some (p, q')) : ∃ p, J i = some (p, q') := by
  rcases upd_cases hJ hi with ⟨rfl, e⟩ | ⟨-, hi⟩
  · cases e; exact ⟨p0, hj⟩
  · exact ⟨p, hi⟩

theorem OrderInvF.retire {R J J' Q O B E E' N} {a j q : Nat} (hj : JobInvF R J Q O) (h : OrderInvF J Q B E N)
    (hold : R a = some (j, q))
    (hJ : ∀ i, J' i = if i = j then some (.done, q) else J i)
    (hE : ∀ i, E' i = if i = j then true else E i) : OrderInvF J' Q B E' N := by
  have hja := hj.run1 a j q hold
  refine ⟨?_, h.sorted, ?_, ?_, ?_⟩
  · intro i pq hi
    obtain ⟨_, hi⟩ := upd_phase hja hJ hi
    exact h.bound i _ hi
  · intro j1 j2 a' q' hh hq
    exact h.heldFirst j1 j2 a' q' (upd_old hJ hh nofun).2 (upd_old hJ hq nofun).2
  · intro i q' hd
    by_cases hij : i = j
    · rw [hij, upd_self hE]
    · rw [upd_ne hE hij]; rw [upd_ne hJ hij] at hd; exact h.doneEnded i q' hd
  · intro j1 j2 q' p1 p2 hlt h1 h2 hb
    by_cases h1j : j1 = j
    · rw [h1j, upd_self hE]
    · rw [upd_ne hE h1j]; rw [upd_ne hJ h1j] at h1
      obtain ⟨p, h2⟩ := upd_phase hja hJ h2
      exact h.order j1 j2 q' p1 p hlt h1 h2 hb

theorem OrderInvF.requeue {R J J' Q Q' O B E N} {a j q : Nat} {l0 : List Nat} (hj : JobInvF R J Q O) (hx : HeldExcl J) (h : OrderInvF J Q B E N)
    (hold : R a = some (j, q)) (hq0 : Q q = some l0)
    (hJ : ∀ i, J' i = if i = j then some (.queued, q) else J i)
    (hQ : ∀ i, Q' i = if i = q then some (j :: l0) else Q i) : OrderInvF J' Q' B E N := by
  have hja := hj.run1 a j q hold
  refine ⟨?_, ?_, ?_, ?_, ?_⟩
  · intro i pq hi
    obtain ⟨_, hi⟩ := upd_phase hja hJ hi
    exact h.bound i _ hi
  · intro q' l hl
    rcases upd_cases hQ hl with ⟨-, e⟩ | ⟨-, hl⟩
    · cases e
      exact List.pairwise_cons.mpr ⟨fun x hx' => h.heldFirst j x a q hja (hj.queued q l0 x hq0 hx'), h.sorted q l0 hq0⟩
    · exact h.sorted q' l hl
  · intro j1 j2 a' q' hh hq
    obtain ⟨hne1, hh⟩ := upd_old hJ hh nofun
    rcases upd_cases hJ hq with ⟨rfl, e⟩ | ⟨-, hq⟩
    · cases e; exact absurd (hx j1 _ a' a _ hh hja) hne1
    · exact h.heldFirst j1 j2 a' q' hh hq
  · intro i q' hd
    exact h.doneEnded i q' (upd_old hJ hd nofun).2
  · intro j1 j2 q' p1 p2 hlt h1 h2 hb
    obtain ⟨p, h1⟩ := upd_phase hja hJ h1
    obtain ⟨p', h2⟩ := upd_phase hja hJ h2
    exact h.order j1 j2 q' p p' hlt h1 h2 hb

theorem OrderInvF.take {R J J' Q Q' O B E N} {a j q : Nat} {rest : List Nat} (hj : JobInvF R J Q O) (h : OrderInvF J Q B E N)
    (hhead : Q q = some (j :: rest))
    (hJ : ∀ i, J' i = if i = j then some (.held a, q) else J i)
    (hQ : ∀ i, Q' i = if i = q then some rest else Q i) : OrderInvF J' Q' B E N := by
  have hjq := hj.queued q _ j hhead (List.mem_cons_self ..)
  have hs := List.pairwise_cons.mp (h.sorted q _ hhead)
  refine ⟨?_, ?_, ?_, ?_, ?_⟩
  · intro i pq hi
    obtain ⟨_, hi⟩ := upd_phase hjq hJ hi
    exact h.bound i _ hi
  · intro q' l hl
    rcases upd_cases hQ hl with ⟨-, e⟩ | ⟨-, hl⟩
    · cases e; exact hs.2
    · exact h.sorted q' l hl
  · intro j1 j2 a' q' hh hq
    obtain ⟨hne2, hq⟩ := upd_old hJ hq nofun
    rcases upd_cases hJ hh with ⟨rfl, e⟩ | ⟨-, hh⟩
    · cases e
      -- the other queued jobs of `q` are behind the old head
      obtain ⟨l, hl, hm⟩ := hj.member j2 _ hq
      rw [hhead] at hl; cases hl
      exact hs.1 j2 ((List.mem_cons.mp hm).resolve_left hne2)
    · exact h.heldFirst j1 j2 a' q' hh hq
  · intro i q' hd
    exact h.doneEnded i q' (upd_old hJ hd nofun).2
  · intro j1 j2 q' p1 p2 hlt h1 h2 hb
    obtain ⟨p, h1⟩ := upd_phase hjq hJ h1
    obtain ⟨p', h2⟩ := upd_phase hjq hJ h2
    exact h.order j1 j2 q' p p' hlt h1 h2 hb

theorem OrderInvF.newHeld {J J' Q B B' E E' N} {a q : Nat} (h : OrderInvF J Q B E N)
    (hnoq : ∀ j, J j ≠ some (.queued, q)) (hnoh : ∀ j a', J j ≠ some (.held a', q))
    (hJ : ∀ i, J' i = if i = N then some (.held a, q) else J i)
    (hB : ∀ i, i ≠ N → B' i = B i) (hE : ∀ i, i ≠ N → E' i = E i) : OrderInvF J' Q B' E' (N + 1) := by
  refine ⟨?_, h.sorted, ?_, ?_, ?_⟩
  · intro i pq hi
    rcases upd_cases hJ hi with ⟨rfl, -⟩ | ⟨-, hi⟩
    · exact Nat.lt_succ_self _
    · exact Nat.lt_succ_of_lt (h.bound i pq hi)
  · intro j1 j2 a' q' hh hq
    obtain ⟨-, hq⟩ := upd_old hJ hq nofun
    rcases upd_cases hJ hh with ⟨-, e⟩ | ⟨-, hh⟩
    · cases e; exact absurd hq (hnoq j2)
    · exact h.heldFirst j1 j2 a' q' hh hq
  · intro i q' hd
    obtain ⟨hne, hd⟩ := upd_old hJ hd nofun
    rw [hE i hne]; exact h.doneEnded i q' hd
  · intro j1 j2 q' p1 p2 hlt h1 h2 hb
    -- `j1` is older than a job that exists or is the new one
    have hne1 : j1 ≠ N := fun e => by
      rcases upd_cases hJ h2 with ⟨e2, -⟩ | ⟨-, h2⟩
      · omega
      · have := h.bound j2 _ h2; omega
    rw [upd_ne hJ hne1] at h1; rw [hE j1 hne1]
    rcases upd_cases hJ h2 with ⟨-, e⟩ | ⟨hne2, h2⟩
    · cases e
      -- every older job of `q` is finished: none is queued, none is held
      cases p1 with
      | queued => exact absurd h1 (hnoq j1)
      | held a' => exact absurd h1 (hnoh j1 a')
      | done => exact h.doneEnded j1 _ h1
    · rw [hB j2 hne2] at hb; exact h.order j1 j2 q' p1 p2 hlt h1 h2 hb

theorem OrderInvF.newQueued {R J J' Q Q' O B B' E E' N} {q : Nat} {l0 : List Nat} (hj : JobInvF R J Q O) (h : OrderInvF J Q B E N)
    (hq : Q q = some l0)
    (hJ : ∀ i, J' i = if i = N then some (.queued, q) else J i)
    (hQ : ∀ i, Q' i = if i = q then some (l0 ++ [N]) else Q i)
    (hB : ∀ i, B' i = if i = N then false else B i) (hE : ∀ i, i ≠ N → E' i = E i) : OrderInvF J' Q' B' E' (N + 1) := by
  refine ⟨?_, ?_, ?_, ?_, ?_⟩
  · intro i pq hi
    rcases upd_cases hJ hi with ⟨rfl, -⟩ | ⟨-, hi⟩
    · exact Nat.lt_succ_self _
    · exact Nat.lt_succ_of_lt (h.bound i pq hi)
  · intro q' l hl
    rcases upd_cases hQ hl with ⟨-, e⟩ | ⟨-, hl⟩
    · cases e
      refine List.pairwise_append.mpr ⟨h.sorted q l0 hq, List.pairwise_singleton _ _, fun x hx y hy => ?_⟩
      cases List.mem_singleton.mp hy
      exact h.bound x _ (hj.queued q l0 x hq hx)
    · exact h.sorted q' l hl
  · intro j1 j2 a' q' hh hq'
    obtain ⟨-, hh⟩ := upd_old hJ hh nofun
    rcases upd_cases hJ hq' with ⟨rfl, -⟩ | ⟨-, hq'⟩
    · exact h.bound j1 _ hh
    · exact h.heldFirst j1 j2 a' q' hh hq'
  · intro i q' hd
    obtain ⟨hne, hd⟩ := upd_old hJ hd nofun
    rw [hE i hne]; exact h.doneEnded i q' hd
  · intro j1 j2 q' p1 p2 hlt h1 h2 hb
    obtain ⟨hne2, hb⟩ := upd_old hB hb nofun
    rw [upd_ne hJ hne2] at h2
    have hne1 : j1 ≠ N := fun e => by have := h.bound j2 _ h2; omega
    rw [upd_ne hJ hne1] at h1; rw [hE j1 hne1]
    exact h.order j1 j2 q' p1 p2 hlt h1 h2 hb

end Desync
