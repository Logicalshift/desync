/-
The `DrainWaker` latch (C06, the "task polling a returned future" context): a latch holds a waker exactly while it is armed
(`WillWakeWithWaker`), so a wake-up that arrives before the drain has armed it is remembered as `Woken` and the waker handed to
`wake_with` is fired at once, one that arrives after fires the stored waker — and either way the waker is taken out, so it is
fired at most once per arming.
-/
import DesyncModel.Inv.StepTables

namespace Desync
open Gen

structure LatchInv (s : State) : Prop where
  ok : ∀ (l : Nat) (st : Latch) (w : Option Waker), s.latches[l]? = some (st, w) → (w.isSome = true ↔ st = .willWake)

theorem LatchInv.same {s X : State} (h : LatchInv s) (e : X.latches = s.latches) : LatchInv X := ⟨by rw [e]; exact h.ok⟩

theorem LatchInv.set {s X : State} (h : LatchInv s) {l0 : Nat} {st0 : Latch} {w0 : Option Waker} (e : X.latches = s.latches.set l0 (st0, w0))
    (hok : w0.isSome = true ↔ st0 = .willWake) : LatchInv X := by
  refine ⟨fun l st w hl => ?_⟩
  rcases getElem?_set_cases (e ▸ hl) with ⟨-, e1⟩ | hl
  · cases e1; exact hok
  · exact h.ok l st w hl

theorem LatchInv.append {s X : State} (h : LatchInv s) (e : X.latches = s.latches ++ [(.notWoken, none)]) : LatchInv X := by
  refine ⟨fun l st w hl => ?_⟩
  rcases getElem?_append_cases (e ▸ hl) with hl | ⟨-, hm⟩
  · exact h.ok l st w hl
  · cases List.mem_singleton.mp hm; simp

/-- `wake` disarms the latch and takes the waker out if it was armed; `wake_with` arms it and stores the waker unless a wake-up
has already arrived; `drain_queue` starts every job with a fresh, empty latch. -/
theorem Step.latchInv {s s' : State} {a : Nat} {act : Act} (h : LatchInv s) (hst : Step s a act s') : LatchInv s' := by
  rcases hst.latches_cases with e | e | ⟨l, st, w, hl, e | ⟨f, w', k, -, e⟩⟩
  · exact h.same e
  · exact h.append e
  · exact h.set e (by have := h.ok l st w hl; cases st <;> simp_all [latchWake])
  · exact h.set e (by cases st <;> simp [latchWakeWith])

theorem latchInv_reachable {s : State} (hr : Reachable s) : LatchInv s :=
  Reachable.invariant (fun _ _ _ => ⟨by simp [initStateP, initState]⟩)
    (fun _ h _ _ hst => hst.latchInv h) (fun _ h he => h.same he.sameCore.latches) hr

end Desync
