/-
The condition-variable protocol of `sync_background` (C04; the job-completion half of the class of defect F3):
a sync caller asleep on its condition variable is never left there once its job has been run — when the `ready` flag is
set, the caller has been notified, or the notification is on its way, or the caller is not asleep.  The argument is the
one the code comments give: the caller holds its `ready` lock from the moment it sees "not ready" until it starts waiting,
and whoever sets the flag or signals the caller takes that lock.
-/
import DesyncModel.Inv.StepTables
import DesyncModel.Inv.Erased

namespace Desync
open Gen

/-- no head of the protocol (`sbTest`, `sbClaim`, `sbClaimRel`, `sbRelReady`, `sbWait`, `sbWaiting`, `sbDone`; `rqNotify`, `rqNotifyRel`;
`jobDropNotify`) occurs anywhere in the pc -/
def Pc.cvQuiet : Pc → Bool
  | .begin _ k | .body _ k | .unwinding k => k.cvQuiet
  | .stReap k | .stScanLock k | .stScan _ k | .stScanHeld _ k | .stScanRel _ _ k
  | .stScanUnlock _ k | .stReadMax k | .stSpawn _ k | .stSpawnRel k => k.cvQuiet
  | .rqCs _ k | .rqNotifyAcq _ _ _ k | .rqPush _ k => k.cvQuiet
  | .rqNotify _ _ _ _ | .rqNotifyRel _ _ _ _ => false
  | .resumeSend _ k | .waking _ k | .openSend _ k | .wqCs _ k | .wtCs _ _ k | .wtUnpark _ k | .lwCs _ k | .dwCs _ k => k.cvQuiet
  | .rjDequeue _ k | .rjPending _ _ k | .rjParkCheck _ _ k | .rjPark _ _ k | .rjParked _ _ k => k.cvQuiet
  | .jobStart _ c k | .jobAwait _ c k | .jobBodyDone _ c k | .jobEnd _ c k | .jobSignal _ c k
  | .jobSigDrop _ c k | .jobDrop _ c k | .suspSignal _ c k | .suspSigDrop _ c k =>
      (match c with | .caller _ => k.cvQuiet | _ => true)
  | .jobDropNotify _ _ _ => false
  | .sbTest _ _ | .sbClaim _ _ | .sbClaimRel _ _ _ | .sbRelReady _ _ | .sbWait _ _ | .sbWaiting _ _ | .sbDone _ _ => false
  | .pfPollRel _ next => next.cvQuiet
  | .dqWakeWith _ _ _ k => k.cvQuiet
  | .fdDrop _ k => k.cvQuiet
  | _ => true

/-- the only such head is the head of the pc itself -/
def Pc.cvWf : Pc → Bool
  | .rqNotify _ _ _ k | .rqNotifyRel _ _ _ k => k.cvQuiet
  | .jobDropNotify _ c k => (match c with | .caller _ => k.cvQuiet | _ => true)
  | .sbTest _ _ | .sbClaim _ _ | .sbClaimRel _ _ _ | .sbRelReady _ _ | .sbWait _ _ | .sbWaiting _ _ | .sbDone _ _ => true
  | pc => pc.cvQuiet

theorem cvQuiet_wf (pc : Pc) (h : pc.cvQuiet = true) : pc.cvWf = true := by
  cases pc <;> first | exact h | cases h

@[simp] theorem cvQuiet_ctxReady (k : Pc) (c : Ctx) : (ctxReady k c).cvQuiet = (match c with | .caller _ => k.cvQuiet | _ => true) := by
  cases c <;> rfl
@[simp] theorem cvQuiet_ctxPending (j : Nat) (k : Pc) (c : Ctx) : (ctxPending j k c).cvQuiet = (match c with | .caller _ => k.cvQuiet | _ => true) := by
  cases c <;> rfl

/-- the caller holds its own `ready` lock -/
def Pc.sbOwn : Pc → Bool
  | .sbTest _ _ | .sbClaim _ _ | .sbClaimRel _ _ _ | .sbRelReady _ _ | .sbWait _ _ | .sbDone _ _ => true
  | _ => false

/-- the caller has seen "not ready" and still holds the lock -/
def Pc.sbNr : Pc → Bool
  | .sbClaim _ _ | .sbClaimRel _ _ _ | .sbWait _ _ => true
  | _ => false

/-- the caller is asleep on its condition variable -/
def Pc.sbAsleep : Pc → Bool
  | .sbWaiting _ _ => true
  | _ => false

/-- `reschedule_queue` holds the `ready` lock of the caller it is signalling -/
def Pc.notifies : Pc → Option Nat
  | .rqNotify _ (w :: _) _ _ | .rqNotifyRel _ (w :: _) _ _ => some w
  | _ => none

/-- the dropped lifetime-erased job whose owner is about to be notified -/
def Pc.dropNotifies : Pc → Option Nat
  | .jobDropNotify j _ _ => some j
  | _ => none

/-- the sync caller whose lifetime-erased background job `j` is -/
def State.jobOwner (s : State) (j : Nat) : Option Nat :=
  match s.jobs[j]? with
  | some jb => (match jb.kind with | .erasedBg o _ => some o | _ => none)
  | none => none

theorem jobOwner_of {s : State} {j o : Nat} {jb : Job} {b : Body} (hjb : s.jobs[j]? = some jb) (hk : jb.kind = .erasedBg o b) :
    s.jobOwner j = some o := by
  simp only [State.jobOwner, hjb, hk]

theorem jobOwner_mono {s X : State} (hm : JobMono s X) {j a : Nat} (h : s.jobOwner j = some a) : X.jobOwner j = some a := by
  unfold State.jobOwner at h ⊢
  split at h
  · next jb hjb =>
    obtain ⟨jb', h1, h2, _⟩ := hm j jb hjb
    rw [h1]; simp only; rw [h2]; exact h
  · cases h

theorem quiet_classes {pc : Pc} (h : pc.cvQuiet = true) :
    pc.sbOwn = false ∧ pc.sbNr = false ∧ pc.sbAsleep = false ∧ pc.notifies = none ∧ pc.dropNotifies = none := by
  cases pc <;> first | exact ⟨rfl, rfl, rfl, rfl, rfl⟩ | cases h

structure CvInv (s : State) : Prop where
  /-- the program counters of the protocol (the caller's wait loop, the notification in `reschedule_queue`, the notification after a dropped job)
  stand only at the head of an activity's program counter, never inside a continuation -/
  wf : ∀ b, (s.pcAt b).cvWf = true
  /-- a caller's `ready` mutex has at most one holder -/
  ml : ∀ w h h', (w, h) ∈ s.readyLock → (w, h') ∈ s.readyLock → h = h'
  /-- a caller between taking its own `ready` mutex to test the flag and letting go of it (to wait, to run the job itself, or to return) holds it -/
  rl : ∀ a, (s.pcAt a).sbOwn = true → (a, a) ∈ s.readyLock
  /-- `reschedule_queue`, while it notifies a sync caller, holds that caller's `ready` mutex (the F3 repair) -/
  rl2 : ∀ b w, (s.pcAt b).notifies = some w → (w, b) ∈ s.readyLock
  /-- from the moment a caller has seen its `ready` flag down until it starts to wait, the flag is still down -/
  nr : ∀ a, (s.pcAt a).sbNr = true → s.isReady a = false
  /-- a caller asleep on its condition variable has been notified, or its `ready` flag is still down, or whoever dropped its job is between
  setting the flag and `notify_all` -/
  w : ∀ a, (s.pcAt a).sbAsleep = true → s.isWoken a = true ∨ s.isReady a = false ∨ ∃ b j, (s.pcAt b).dropNotifies = some j ∧ s.jobOwner j = some a

theorem sbNr_sbOwn {pc : Pc} (h : pc.sbNr = true) : pc.sbOwn = true := by
  unfold Pc.sbNr at h
  split at h <;> first | rfl | cases h

theorem not_held_of {s : State} {w : Nat} (h : s.readyHeld w = false) : ∀ x, (w, x) ∉ s.readyLock := by
  rw [State.readyHeld, List.any_eq_false] at h
  exact fun x hx => h _ hx (beq_self_eq_true w)

theorem isWoken_of {s : State} {a : Nat} {act : Act} (ha : s.acts[a]? = some act) : s.isWoken a = act.woken := by
  simp [State.isWoken, ha]

theorem isWoken_congr {s X : State} (h : X.acts = s.acts) (b : Nat) : X.isWoken b = s.isWoken b := by simp only [State.isWoken, h]

theorem isWoken_setAct_ne {X : State} {a b : Nat} (v : Act) (h : b ≠ a) : (X.setAct a v).isWoken b = X.isWoken b := by
  simp only [State.isWoken, State.setAct, List.getElem?_set_ne (Ne.symm h)]

theorem isWoken_setAct_self {X : State} {a : Nat} (v : Act) (h : a < X.acts.length) : (X.setAct a v).isWoken a = v.woken := by
  simp only [State.isWoken, State.setAct, List.getElem?_set_self h]

theorem isWoken_setAct_of {X : State} {a : Nat} {act v : Act} (ha : X.acts[a]? = some act) (hv : v.woken = act.woken) (b : Nat) :
    (X.setAct a v).isWoken b = X.isWoken b := by
  by_cases hba : b = a
  · rw [hba, isWoken_setAct_self v (lt_of_getElem?_some ha), hv, isWoken_of ha]
  · exact isWoken_setAct_ne v hba

@[simp] theorem isWoken_goto (X : State) (a : Nat) (pc : Pc) (b : Nat) : (X.goto a pc).isWoken b = X.isWoken b := by
  unfold State.goto
  split
  · next v hv => exact isWoken_setAct_of (v := { v with pc := pc }) hv rfl b
  · rfl

@[simp] theorem isWoken_setChild (s : State) (p c : Option Nat) (b : Nat) : (s.setChild p c).isWoken b = s.isWoken b := by
  unfold State.setChild
  split
  · split
    · next pv hpv => exact isWoken_setAct_of (v := { pv with child := c }) hpv rfl b
    · rfl
  · rfl

@[simp] theorem isWoken_setQ (s : State) (q : Nat) (v : JobQ) (i : Nat) : (s.setQ q v).isWoken i = s.isWoken i := rfl
@[simp] theorem isWoken_setJob (s : State) (j : Nat) (v : Job) (i : Nat) : (s.setJob j v).isWoken i = s.isWoken i := rfl
@[simp] theorem isWoken_setFut (s : State) (f : Nat) (v : Fut) (i : Nat) : (s.setFut f v).isWoken i = s.isWoken i := rfl
@[simp] theorem isWoken_setGate (s : State) (g : Nat) (v : Gate) (i : Nat) : (s.setGate g v).isWoken i = s.isWoken i := rfl
@[simp] theorem isWoken_setSf (s : State) (u : Nat) (v : SyncFut) (i : Nat) : (s.setSf u v).isWoken i = s.isWoken i := rfl
@[simp] theorem isWoken_setPThr (s : State) (p : Nat) (v : PThr) (i : Nat) : (s.setPThr p v).isWoken i = s.isWoken i := rfl
@[simp] theorem isWoken_setHolder (s : State) (q : Nat) (h : Option Nat) (i : Nat) : (s.setHolder q h).isWoken i = s.isWoken i := rfl
@[simp] theorem isWoken_takeReady (s : State) (w a : Nat) (i : Nat) : (s.takeReady w a).isWoken i = s.isWoken i := rfl
@[simp] theorem isWoken_dropReady (s : State) (w : Nat) (i : Nat) : (s.dropReady w).isWoken i = s.isWoken i := rfl
@[simp] theorem isWoken_newJob (s : State) (q : Nat) (k : JobKind) (i : Nat) : (s.newJob q k).1.isWoken i = s.isWoken i := rfl
@[simp] theorem isReady_newJob (s : State) (q : Nat) (k : JobKind) (i : Nat) : (s.newJob q k).1.isReady i = s.isReady i := rfl

@[simp] theorem isWoken_setQState (s : State) (q : Nat) (st : QState) (i : Nat) : (s.setQState q st).isWoken i = s.isWoken i :=
  isWoken_congr (acts_setQState s q st) i
@[simp] theorem isWoken_pushBack (s : State) (q j : Nat) (i : Nat) : (s.pushBack q j).isWoken i = s.isWoken i :=
  isWoken_congr (acts_pushBack s q j) i
@[simp] theorem isWoken_pushFront (s : State) (q j : Nat) (i : Nat) : (s.pushFront q j).isWoken i = s.isWoken i :=
  isWoken_congr (acts_pushFront s q j) i
@[simp] theorem isWoken_setJobPh (s : State) (j : Nat) (ph : Phase) (i : Nat) : (s.setJobPh j ph).isWoken i = s.isWoken i :=
  isWoken_congr (acts_setJobPh s j ph) i
@[simp] theorem isWoken_dequeue (s : State) (q a i : Nat) : (s.dequeue q a).1.isWoken i = s.isWoken i :=
  isWoken_congr (dequeue_acts s q a) i

@[simp] theorem isReady_dequeue (s : State) (q a i : Nat) : (s.dequeue q a).1.isReady i = s.isReady i :=
  isReady_congr (ready_dequeue s q a) i

theorem isWoken_setWoken_ne {X : State} {a b : Nat} (v : Bool) (h : b ≠ a) : (X.setWoken a v).isWoken b = X.isWoken b := by
  unfold State.setWoken
  split
  · exact isWoken_setAct_ne _ h
  · rfl

theorem isWoken_notify_mono {X : State} {w b : Nat} (h : X.isWoken b = true) : (X.notify w).isWoken b = true := by
  unfold State.notify
  split
  · next v hv =>
    split
    · by_cases hb : b = w
      · rw [hb]; exact isWoken_setAct_self _ (lt_of_getElem?_some hv)
      · rw [isWoken_setAct_ne _ hb]; exact h
    · exact h
  · exact h

theorem isWoken_notify_self {X : State} {w : Nat} (h : (X.pcAt w).sbAsleep = true) : (X.notify w).isWoken w = true := by
  unfold State.notify
  split
  · next v hv =>
    rw [pcAt_of hv] at h
    unfold Pc.sbAsleep at h
    split at h
    · next q j hq => rw [hq]; exact isWoken_setAct_self _ (lt_of_getElem?_some hv)
    · cases h
  · next hv => rw [State.pcAt, hv] at h; cases h

/-- what a step does to the `ready` locks: nothing, the mover takes a free one, or the mover lets go of one it holds -/
def LockStep (s X : State) (a : Nat) : Prop :=
  X.readyLock = s.readyLock ∨ (∃ w, (∀ x, (w, x) ∉ s.readyLock) ∧ X.readyLock = (w, a) :: s.readyLock) ∨
  (∃ w, (w, a) ∈ s.readyLock ∧ X.readyLock = s.readyLock.filter (fun p => p.1 != w))

theorem LockStep.keeps {s X : State} {a : Nat} (h : CvInv s) (hl : LockStep s X a) {w b : Nat} (hba : b ≠ a) (hm : (w, b) ∈ s.readyLock) :
    (w, b) ∈ X.readyLock := by
  rcases hl with e | ⟨w', _, e⟩ | ⟨w', hw', e⟩
  · rw [e]; exact hm
  · rw [e]; exact List.mem_cons_of_mem _ hm
  · rw [e]
    simp only [List.mem_filter, bne_iff_ne, ne_eq]
    refine ⟨hm, ?_⟩
    intro e2
    subst e2
    exact hba (h.ml _ _ _ hm hw')

theorem LockStep.ml {s X : State} {a : Nat} (h : CvInv s) (hl : LockStep s X a) :
    ∀ w x x', (w, x) ∈ X.readyLock → (w, x') ∈ X.readyLock → x = x' := by
  intro w x x' h1 h2
  rcases hl with e | ⟨w', hfree, e⟩ | ⟨w', _, e⟩
  · rw [e] at h1 h2; exact h.ml w x x' h1 h2
  · rw [e] at h1 h2
    rcases List.mem_cons.mp h1 with e1 | e1 <;> rcases List.mem_cons.mp h2 with e2 | e2
    · rw [Prod.mk.injEq] at e1 e2; rw [e1.2, e2.2]
    · rw [Prod.mk.injEq] at e1; exact absurd e2 (by rw [e1.1]; exact hfree x')
    · rw [Prod.mk.injEq] at e2; exact absurd e1 (by rw [e2.1]; exact hfree x)
    · exact h.ml w x x' e1 e2
  · rw [e] at h1 h2
    exact h.ml w x x' (List.mem_filter.mp h1).1 (List.mem_filter.mp h2).1

/-- What activity `a` must find in `Y` on arriving at `pc`: the clauses of `CvInv` for `a`.  (The sleeper's clause is without its
third case, which no arrival needs: a caller that goes to sleep has just seen "not ready".) -/
structure CvAt (Y : State) (a : Nat) (pc : Pc) : Prop where
  wf : pc.cvWf = true
  rl : pc.sbOwn = true → (a, a) ∈ Y.readyLock
  rl2 : ∀ w, pc.notifies = some w → (w, a) ∈ Y.readyLock
  nr : pc.sbNr = true → Y.isReady a = false
  w : pc.sbAsleep = true → Y.isWoken a = true ∨ Y.isReady a = false

theorem CvAt.quiet {Y : State} {a : Nat} {pc : Pc} (hq : pc.cvQuiet = true) : CvAt Y a pc := by
  obtain ⟨h1, h2, h3, h4, -⟩ := quiet_classes hq
  exact ⟨cvQuiet_wf pc hq, by simp [h1], by simp [h4], by simp [h2], by simp [h3]⟩

/-- The general step.  Activity `a` arrives at `pc'` and owes `CvAt`; every other activity keeps its pc or moves between pcs
without a head of the protocol (a well-formed pc whose head is none is quiet; `hoth` says so for the pc at hand).  The locks
change by `LockStep`; a `ready` flag goes up only for a caller whose lock is free, and then `a` is on its way to notify it; a
sleeper that has been woken stays woken, and when `a` leaves `jobDropNotify` the owner has been woken. -/
theorem CvInv.step {s X : State} {a : Nat} {pc' : Pc} (h : CvInv s)
    (hown : ∀ j b, s.jobOwner j = some b → X.jobOwner j = some b)
    (hoth : ∀ b, b ≠ a → X.pcAt b = s.pcAt b ∨ ((s.pcAt b).cvWf = true → (s.pcAt b).cvQuiet = true ∧ (X.pcAt b).cvQuiet = true))
    (hself : X.pcAt a = pc')
    (hlock : LockStep s X a)
    (hready : ∀ b, b ≠ a → X.isReady b = true →
      s.isReady b = true ∨ ((∀ x, (b, x) ∉ s.readyLock) ∧ ∃ j, pc'.dropNotifies = some j ∧ s.jobOwner j = some b))
    (hwok : ∀ b, b ≠ a → (s.pcAt b).sbAsleep = true → s.isWoken b = true → X.isWoken b = true)
    (hleave : ∀ j b, (s.pcAt a).dropNotifies = some j → s.jobOwner j = some b → b ≠ a → (s.pcAt b).sbAsleep = true →
      X.isWoken b = true ∨ pc'.dropNotifies = some j)
    (hat : CvAt X a pc') : CvInv X := by
  suffices hall : ∀ b, (X.pcAt b).cvWf = true ∧ ((X.pcAt b).sbOwn = true → (b, b) ∈ X.readyLock) ∧
      (∀ w, (X.pcAt b).notifies = some w → (w, b) ∈ X.readyLock) ∧ ((X.pcAt b).sbNr = true → X.isReady b = false) ∧
      ((X.pcAt b).sbAsleep = true →
        X.isWoken b = true ∨ X.isReady b = false ∨ ∃ c j, (X.pcAt c).dropNotifies = some j ∧ X.jobOwner j = some b) from
    ⟨fun b => (hall b).1, hlock.ml h, fun b => (hall b).2.1, fun b => (hall b).2.2.1, fun b => (hall b).2.2.2.1, fun b => (hall b).2.2.2.2⟩
  intro b
  -- `b` arrives where it is — it is the mover, or moves between quiet pcs — or stays where it was
  have key : CvAt X b (X.pcAt b) ∨ (b ≠ a ∧ X.pcAt b = s.pcAt b) := by
    by_cases hba : b = a
    · exact .inl (hba ▸ hself ▸ hat)
    · exact (hoth b hba).elim (fun e => .inr ⟨hba, e⟩) fun hq => .inl (.quiet (hq (h.wf b)).2)
  rcases key with hb | ⟨hba, e⟩
  · exact ⟨hb.wf, hb.rl, hb.rl2, hb.nr, fun hs => (hb.w hs).elim .inl fun e => .inr (.inl e)⟩
  · rw [e]
    refine ⟨h.wf b, fun hb => hlock.keeps h hba (h.rl b hb), fun w hb => hlock.keeps h hba (h.rl2 b w hb), fun hb => ?_, fun hb => ?_⟩
    · -- `b` holds its own lock, so its flag has not gone up
      refine Bool.eq_false_iff.mpr fun hx => ?_
      rcases hready b hba hx with h1 | ⟨h1, -⟩
      · rw [h.nr b hb] at h1; cases h1
      · exact h1 b (h.rl b (sbNr_sbOwn hb))
    · rcases h.w b hb with h1 | h1 | ⟨c, j, h1, h2⟩
      · exact .inl (hwok b hba hb h1)
      · cases hx : X.isReady b with
        | false => exact .inr (.inl rfl)
        | true =>
          rcases hready b hba hx with h3 | ⟨-, j, h3, h4⟩
          · rw [h1] at h3; cases h3
          · exact .inr (.inr ⟨a, j, hself ▸ h3, hown j b h4⟩)
      · by_cases hca : c = a
        · subst hca
          rcases hleave j b h1 h2 hba hb with h3 | h3
          · exact .inl h3
          · exact .inr (.inr ⟨c, j, hself ▸ h3, hown j b h2⟩)
        · have e : X.pcAt c = s.pcAt c := (hoth c hca).resolve_right fun hq => by
            rw [(quiet_classes (hq (h.wf c)).1).2.2.2.2] at h1; cases h1
          exact .inr (.inr ⟨c, j, e ▸ h1, hown j b h2⟩)

/-- Nobody moves in a way the protocol sees. -/
theorem CvInv.view {s X : State} (h : CvInv s)
    (hpc : ∀ b, X.pcAt b = s.pcAt b ∨ ((s.pcAt b).cvWf = true → (s.pcAt b).cvQuiet = true ∧ (X.pcAt b).cvQuiet = true))
    (hwok : ∀ b, (s.pcAt b).sbAsleep = true → X.isWoken b = s.isWoken b)
    (hrl : X.readyLock = s.readyLock) (hr : X.ready = s.ready)
    (hown : ∀ j b, s.jobOwner j = some b → X.jobOwner j = some b) : CvInv X := by
  -- `CvInv.step` for a mover beyond both lists of activities
  have hs : s.pcAt (max s.acts.length X.acts.length) = .dead := pcAt_of_ge (Nat.le_max_left _ _)
  have hX : X.pcAt (max s.acts.length X.acts.length) = .dead := pcAt_of_ge (Nat.le_max_right _ _)
  exact h.step hown (fun b _ => hpc b) hX (.inl hrl) (fun b _ hx => .inl ((isReady_congr hr b).symm.trans hx))
    (fun b _ hb hx => (hwok b hb).trans hx) (fun j b e => by rw [hs] at e; cases e) ⟨rfl, nofun, nofun, nofun, nofun⟩

theorem CvInv.of_sameCore {s X : State} (h : CvInv s) (hc : SameCore s X) (hpc : ∀ b, X.pcAt b = s.pcAt b)
    (hwok : ∀ b, X.isWoken b = s.isWoken b) : CvInv X :=
  h.view (fun b => .inl (hpc b)) (fun b _ => hwok b) hc.readyLock hc.ready fun _ _ => jobOwner_mono (.same hc.jobs)

theorem CvInv.append {s X : State} {n : Act} (h : CvInv s) (hacts : X.acts = s.acts ++ [n]) (hn : n.pc.cvQuiet = true)
    (hrl : X.readyLock = s.readyLock) (hr : X.ready = s.ready) (hj : X.jobs = s.jobs) : CvInv X := by
  refine h.view (fun b => ?_) (fun b hb => ?_) hrl hr fun _ _ => jobOwner_mono (.same hj)
  · rw [pcAt_append_one hacts]; split
    · next e => exact .inr fun _ => ⟨by rw [e, pcAt_len]; rfl, hn⟩
    · exact .inl rfl
  · have hlt : b < s.acts.length := Nat.lt_of_not_le fun hge => by rw [pcAt_of_ge hge] at hb; cases hb
    rw [State.isWoken, hacts, List.getElem?_append_left hlt]; rfl

theorem CvInv.setAct_neutral {s Y : State} {a : Nat} {act v : Act} {pc : Pc} (h : CvInv s) (hm : JobMono s (Y.setAct a v))
    (ha : s.acts[a]? = some act) (hpc : act.pc = pc) (hq : pc.cvWf = true → pc.cvQuiet = true ∧ v.pc.cvQuiet = true)
    (hv : v.woken = act.woken) (hacts : Y.acts = s.acts) (hrl : Y.readyLock = s.readyLock) (hr : Y.ready = s.ready) :
    CvInv (Y.setAct a v) := by
  have haY : Y.acts[a]? = some act := hacts ▸ ha
  refine h.view (fun b => ?_) (fun b _ => ?_) hrl hr fun _ _ => jobOwner_mono hm
  · by_cases hba : b = a
    · subst hba
      rw [pcAt_setAct_self _ (lt_of_getElem?_some haY), pcAt_of ha, hpc]
      exact .inr hq
    · exact .inl ((pcAt_setAct_ne _ hba).trans (pcAt_congr hacts b))
  · exact (isWoken_setAct_of haY hv b).trans (isWoken_congr hacts b)

theorem CvInv.goto_neutral {s Y : State} {a : Nat} {act : Act} {pc pc' : Pc} (h : CvInv s) (hm : JobMono s (Y.goto a pc'))
    (ha : s.acts[a]? = some act) (hpc : act.pc = pc) (hq : pc.cvWf = true → pc.cvQuiet = true ∧ pc'.cvQuiet = true)
    (hacts : Y.acts = s.acts) (hrl : Y.readyLock = s.readyLock) (hr : Y.ready = s.ready) : CvInv (Y.goto a pc') := by
  rw [goto_eq_setAct pc' (hacts ▸ ha : Y.acts[a]? = some act)] at hm ⊢
  exact h.setAct_neutral hm ha hpc hq rfl hacts hrl hr

/-- `CvInv.step` for a rule that goes to `pc'` from a state `Y` in which the pcs are those of `s`: what the rule did to the locks,
the flags and the `woken` flags of the others is said of `Y`. -/
theorem CvInv.goto {s Y : State} {a : Nat} {act : Act} {pc pc' : Pc} (h : CvInv s) (hm : JobMono s (Y.goto a pc'))
    (ha : s.acts[a]? = some act) (hpc : act.pc = pc) (hlt : a < (Y.goto a pc').acts.length) (hpcY : ∀ b, Y.pcAt b = s.pcAt b)
    (hwok : ∀ b, b ≠ a → s.isWoken b = true → Y.isWoken b = true)
    (hlock : LockStep s Y a)
    (hready : ∀ b, b ≠ a → Y.isReady b = true →
      s.isReady b = true ∨ ((∀ x, (b, x) ∉ s.readyLock) ∧ ∃ j, pc'.dropNotifies = some j ∧ s.jobOwner j = some b))
    (hleave : ∀ j b, pc.dropNotifies = some j → s.jobOwner j = some b → b ≠ a → (s.pcAt b).sbAsleep = true →
      Y.isWoken b = true ∨ pc'.dropNotifies = some j)
    (hat : CvAt Y a pc') : CvInv (Y.goto a pc') := by
  refine h.step (fun _ _ => jobOwner_mono hm) (fun b hb => .inl ((pcAt_goto_ne pc' hb).trans (hpcY b))) (pcAt_goto_of_lt hlt) ?_ ?_ ?_ ?_ ?_
  · unfold LockStep; rw [readyLock_goto]; exact hlock
  · intro b hb hx
    rw [isReady_goto] at hx
    exact hready b hb hx
  · intro b hb _ hx; rw [isWoken_goto]; exact hwok b hb hx
  · intro j b e; rw [isWoken_goto, pcAt_of ha, hpc] at *; exact hleave j b e
  · exact ⟨hat.wf, by rw [readyLock_goto]; exact hat.rl, by rw [readyLock_goto]; exact hat.rl2, by rw [isReady_goto]; exact hat.nr,
      by rw [isWoken_goto, isReady_goto]; exact hat.w⟩

theorem CvInv.goto_lock {s Y : State} {a : Nat} {act : Act} {pc pc' : Pc} (h : CvInv s) (hm : JobMono s (Y.goto a pc'))
    (ha : s.acts[a]? = some act) (hpc : act.pc = pc) (hold : pc.dropNotifies = none) (hacts : Y.acts = s.acts) (hr : Y.ready = s.ready)
    (hlock : LockStep s Y a) (hat : CvAt Y a pc') : CvInv (Y.goto a pc') :=
  h.goto hm ha hpc (by rw [acts_length_goto, hacts]; exact lt_of_getElem?_some ha) (pcAt_congr hacts) (fun b _ hx => (isWoken_congr hacts b).trans hx) hlock
    (fun b _ hx => .inl ((isReady_congr hr b).symm.trans hx)) (fun j b e => by rw [hold] at e; cases e) hat

end Desync
