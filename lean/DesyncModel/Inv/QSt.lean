/-
The state word of a queue, `s.qSt q`, and how the setters act on it.
-/
import DesyncModel.Inv.Acts
import DesyncModel.StepRel
namespace Desync
open Gen

def State.qSt (s : State) (q : Nat) : Option QState := (s.qs[q]?).map (·.state)
theorem qSt_of {s : State} {q : Nat} {v : JobQ} (h : s.qs[q]? = some v) : s.qSt q = some v.state := by simp [State.qSt, h]
theorem qSt_congr {X s : State} (h : X.qs = s.qs) (q : Nat) : X.qSt q = s.qSt q := by simp only [State.qSt, h]
theorem qSt_some {s : State} {q : Nat} {st : QState} (h : s.qSt q = some st) : ∃ v, s.qs[q]? = some v ∧ v.state = st := by
  simp only [State.qSt, Option.map_eq_some_iff] at h; exact h
theorem qState_of_qSt {s : State} {q : Nat} {st : QState} (h : s.qSt q = some st) : s.qState q = st := by
  obtain ⟨v, hv, rfl⟩ := qSt_some h
  simp [State.qState, hv]
theorem qSt_setQ {s : State} {q : Nat} {v : JobQ} (hv : s.qs[q]? = some v) (v' : JobQ) (i : Nat) :
    (s.setQ q v').qSt i = if i = q then some v'.state else s.qSt i := by
  have hlt : q < s.qs.length := lt_of_getElem?_some hv
  simp only [State.qSt, State.setQ, List.getElem?_set]
  by_cases h : q = i
  · subst h; simp [hlt]
  · have : ¬ i = q := fun e => h e.symm
    simp [h, this]
theorem qSt_of_set {s X : State} {q0 : Nat} {v v' : JobQ} (hv : s.qs[q0]? = some v) (hqs : X.qs = s.qs.set q0 v') (q : Nat) :
    X.qSt q = if q = q0 then some v'.state else s.qSt q :=
  (qSt_congr (X := X) (s := s.setQ q0 v') hqs q).trans (qSt_setQ hv v' q)
@[simp] theorem qSt_setJob (s : State) (j : Nat) (v : Job) (i : Nat) : (s.setJob j v).qSt i = s.qSt i := qSt_congr (by simp) i
@[simp] theorem qSt_setGate (s : State) (g : Nat) (v : Gate) (i : Nat) : (s.setGate g v).qSt i = s.qSt i := qSt_congr (by simp) i
@[simp] theorem qSt_setAct (s : State) (a : Nat) (v : Act) (i : Nat) : (s.setAct a v).qSt i = s.qSt i := qSt_congr (by simp) i
@[simp] theorem qSt_setSf (s : State) (u : Nat) (v : SyncFut) (i : Nat) : (s.setSf u v).qSt i = s.qSt i := qSt_congr (by simp) i
@[simp] theorem qSt_setPThr (s : State) (p : Nat) (v : PThr) (i : Nat) : (s.setPThr p v).qSt i = s.qSt i := qSt_congr (by simp) i
@[simp] theorem qSt_setHolder (s : State) (q : Nat) (h : Option Nat) (i : Nat) : (s.setHolder q h).qSt i = s.qSt i := qSt_congr (by simp) i
@[simp] theorem qSt_takeReady (s : State) (w a : Nat) (i : Nat) : (s.takeReady w a).qSt i = s.qSt i := qSt_congr (by simp) i
@[simp] theorem qSt_dropReady (s : State) (w : Nat) (i : Nat) : (s.dropReady w).qSt i = s.qSt i := qSt_congr (by simp) i
@[simp] theorem qSt_goto (s : State) (a : Nat) (pc : Pc) (i : Nat) : (s.goto a pc).qSt i = s.qSt i := qSt_congr (by simp) i
@[simp] theorem qSt_setWoken (s : State) (a : Nat) (b : Bool) (i : Nat) : (s.setWoken a b).qSt i = s.qSt i := qSt_congr (by simp) i
@[simp] theorem qSt_notify (s : State) (w : Nat) (i : Nat) : (s.notify w).qSt i = s.qSt i := qSt_congr (by simp) i
@[simp] theorem qSt_setFut (s : State) (f : Nat) (v : Fut) (i : Nat) : (s.setFut f v).qSt i = s.qSt i := qSt_congr (by simp) i
theorem qSt_setQ_keep {s Y : State} {q : Nat} {v v' : JobQ} (hY : Y.qs = s.qs) (hv : s.qs[q]? = some v) (h : v'.state = v.state) (i : Nat) :
    (Y.setQ q v').qSt i = s.qSt i := by
  rw [qSt_setQ (hY ▸ hv), qSt_congr hY]
  split
  · next e => rw [e, qSt_of hv, h]
  · rfl
@[simp] theorem qSt_pushFront (s : State) (q j i : Nat) : (s.pushFront q j).qSt i = s.qSt i := by
  unfold State.pushFront; split
  · next v hv => exact qSt_setQ_keep (v' := { v with jobs := j :: v.jobs }) rfl hv rfl i
  · rfl
@[simp] theorem qSt_pushBack (s : State) (q j i : Nat) : (s.pushBack q j).qSt i = s.qSt i := by
  unfold State.pushBack; split
  · next v hv => exact qSt_setQ_keep (v' := { v with jobs := v.jobs ++ [j] }) rfl hv rfl i
  · rfl
@[simp] theorem qSt_setJobPh (s : State) (j : Nat) (ph : Phase) (i : Nat) : (s.setJobPh j ph).qSt i = s.qSt i := qSt_congr (by simp) i
@[simp] theorem qSt_dequeue (s : State) (q a i : Nat) : (s.dequeue q a).1.qSt i = s.qSt i := by
  unfold State.dequeue
  split
  · next v hv =>
    split
    · split
      · next j' rest _ => simp only [qSt_setJobPh]; exact qSt_setQ_keep (v' := { v with jobs := rest }) rfl hv rfl i
      · rfl
    · rfl
  · rfl
theorem qSt_initP {ps : List Bool} {ng max q : Nat} {st : QState} (h : (initStateP ps ng max).qSt q = some st) : st = .panicked ∨ st = .idle := by
  simp only [initStateP, State.qSt, List.getElem?_map] at h
  cases hp : ps[q]? with
  | none => simp [hp] at h
  | some p => cases p <;> simp [hp] at h <;> simp [← h]
@[simp] theorem qSt_regGate (s : State) (gate : Option Nat) (op i : Nat) : (s.regGate gate op).qSt i = s.qSt i := qSt_congr (by simp) i

theorem qs_setQState_of {Y s : State} {q : Nat} {v : JobQ} (st : QState) (hq : Y.qs = s.qs) (hv : s.qs[q]? = some v) :
    (Y.setQState q st).qs = s.qs.set q { v with state := st } := by
  rw [setQState_eq Y q st v (hq ▸ hv)]; simp [hq]

theorem qs_length_of_qSt {s X : State} (h : ∀ q, (X.qSt q).isSome = (s.qSt q).isSome) : X.qs.length = s.qs.length := by
  have key : ∀ (Y : State) (q : Nat), (Y.qSt q).isSome = decide (q < Y.qs.length) := fun Y q => by
    by_cases hq : q < Y.qs.length <;> simp [State.qSt, hq]
  have h1 := h X.qs.length; have h2 := h s.qs.length
  simp only [key, Nat.lt_irrefl, decide_false] at h1 h2
  have := decide_eq_false_iff_not.mp h1.symm; have := decide_eq_false_iff_not.mp h2
  omega

@[simp] theorem qSt_newJob (s : State) (q : Nat) (k : JobKind) (i : Nat) : (s.newJob q k).1.qSt i = s.qSt i := rfl

theorem qSt_setQState (s : State) (q i : Nat) (st : QState) : (s.setQState q st).qSt i = if i = q then (s.qSt q).map fun _ => st else s.qSt i := by
  unfold State.setQState
  split
  · next v hv => rw [qSt_setQ hv]; split <;> simp_all [qSt_of hv]
  · next hv => split <;> simp_all [State.qSt]

theorem qSt_setQState_at {s : State} {q i : Nat} {st x : QState} (h : (s.setQState q st).qSt i = some x) : (i = q ∧ x = st) ∨ s.qSt i = some x := by
  rw [qSt_setQState] at h
  split at h
  · next e => obtain ⟨_, -, e'⟩ := Option.map_eq_some_iff.mp h; exact .inl ⟨e, e'.symm⟩
  · exact .inr h

end Desync
