/-
The pool invariants of `Inv/Watch.lean` hold in every reachable state; I_watch holds in every state reachable without a maximum of
zero ever being configured.
-/
import DesyncModel.Inv.WatchSched
import DesyncModel.Inv.PoolSim

namespace Desync
open Gen

/-- the pool invariants that hold whatever maxima are configured: the locks, the identities of the pool threads and the thread
records agree with the program counters -/
structure PoolAcct (s : State) : Prop where
  /-- the program counters of the pool code (`schedule_thread`, the pool-thread loop outside a drain, pool resizing) stand only at the head
  of an activity's program counter, never inside a continuation -/
  wf : WfAll s
  /-- whoever is at a point of the code that runs under the lock of the threads vector holds that lock -/
  tl : TlInv s
  /-- no two activities are the same pool thread, and each has a thread record -/
  po : PoInv s
  /-- whoever is at a point of the code that runs under a thread's busy flag holds that flag -/
  bl : BlInv s
  /-- a busy thread is alive, and has a message if it waits for one; the threads of the vector are alive with an open channel and listed once -/
  thr : ThrInv s

structure WatchInv (s : State) : Prop extends PoolAcct s where
  /-- neither the configured maximum nor a maximum in flight is zero, so a `schedule_thread` call that gives up spawning leaves a
  non-empty vector behind -/
  nz : MaxInv (1 ≤ ·) s
  /-- I_watch: a queue on the schedule has a watching pool thread or a `schedule_thread` call that can still be relied on -/
  sched : SchedW s

theorem Step.poolAcct {s s' : State} {a : Nat} {act : Act} (h : PoolAcct s) (ha : s.acts[a]? = some act) (hst : Step s a act s') :
    PStep s a s' ∧ PoolAcct s' :=
  have hp := hst.pstep (pcAt_of ha ▸ h.wf a) ha
  ⟨hp, hst.wfAll h.wf ha, tl_pstep h.tl hp, po_pstep h.po hp, bl_pstep h.tl h.bl hp, thr_pstep h.po h.thr hp⟩

/-- A fresh `set_max_threads` call has the attributes of no call at all, so each invariant reads in `X` what it read in `s`. -/
theorem PEnv.attr {P : Nat → Prop} {s X : State} (he : PEnv P s X) {α : Type} (f : PCls → α) (hf : ∀ n, f (.smSet n) = f .neutral)
    (b : Nat) : f (X.cl b) = f (s.cl b) := by
  rcases he.cl b with h1 | ⟨h1, n, -, h2⟩
  · rw [h1]
  · rw [h1, h2, hf]

theorem PoolAcct.penv {P : Nat → Prop} {s X : State} (h : PoolAcct s) (he : PEnv P s X) : PoolAcct X := by
  obtain ⟨hpth, hvec, htl, -, -⟩ := he.pool
  have hpo := he.po
  have htlH := he.attr PCls.tlHeld fun _ => rfl
  have hsi := he.attr PCls.scanIdx fun _ => rfl
  have hown := he.attr PCls.ownBL fun _ => rfl
  have hrest := he.attr PCls.rest fun _ => rfl
  exact {
    wf := fun b => (he.pcs b).2.1 (h.wf b)
    tl := by simpa only [TlInv, htlH, htl] using h.tl
    po := ⟨by simpa only [hpo] using h.po.uniq, by simpa only [hpo, hpth] using h.po.bound⟩
    bl := ⟨by simpa only [hsi, hvec] using h.bl.idx, by simpa only [holdsBusy, State.bl, hsi, hown, hvec, hpth] using h.bl.own⟩
    thr := ⟨by simpa only [hpth, hpo] using h.thr.exist, by simpa only [hpth, hpo, hrest] using h.thr.restOk,
            by simpa only [hvec, hpo] using h.thr.live, by simpa only [hvec, hpth] using h.thr.hv, hvec ▸ h.thr.nodup⟩ }

theorem SchedW.penv {P : Nat → Prop} {s X : State} (h : SchedW s) (he : PEnv P s X) : SchedW X := by
  obtain ⟨hpth, hvec, -, hsch, -⟩ := he.pool
  have hW : ∀ p, Watching X p ↔ Watching s p := fun p => by simp only [Watching, hpth, he.po, he.attr PCls.gave fun _ => rfl]
  have hG : ∀ a, GoodSt X a ↔ GoodSt s a := fun a => by
    rcases he.cl a with h1 | ⟨h1, n, -, h2⟩
    · simp only [GoodSt, h1, hvec, hW]
    · simp only [GoodSt, h1, h2]
  simpa only [SchedW, hsch, hW, hG] using h

theorem poolAcct_of_empty (s : State) (ha : s.acts = []) (hp : s.pthreads = []) (hv : s.threadsVec = []) : PoolAcct s := by
  have hpc := pcAt_of_nil ha
  have hcl : ∀ b, s.cl b = .neutral := fun b => congrArg Pc.cls (hpc b)
  have hpo : ∀ b, s.po b = none := fun b => congrArg Pc.poolOf (hpc b)
  refine ⟨?_, ?_, ⟨?_, ?_⟩, ⟨?_, ?_⟩, ⟨?_, ?_, ?_, ?_, ?_⟩⟩
  · intro b; rw [hpc]; rfl
  · intro b hb; rw [hcl] at hb; cases hb
  · intro a b p h1; rw [hpo] at h1; cases h1
  · intro a p h1; rw [hpo] at h1; cases h1
  · intro b i hb; rw [hcl] at hb; cases hb
  · intro b p hb
    rcases hb with ⟨i, h1, _⟩ | h1 <;> (rw [hcl] at h1; cases h1)
  · intro p pt h1; rw [hp] at h1; cases h1
  · intro w p pt h1; rw [hpo] at h1; cases h1
  · intro p h1; rw [hv] at h1; cases h1
  · intro p h1; rw [hv] at h1; cases h1
  · rw [hv]; exact List.nodup_nil

theorem poolAcct_reachable {s : State} (hr : Reachable s) : PoolAcct s :=
  Reachable.invariant (P := PoolAcct) (fun _ _ _ => poolAcct_of_empty _ rfl rfl rfl) (fun _ h ha _ hst => (hst.poolAcct h ha).2)
    (fun _ h he => h.penv (he.penv (P := fun _ => True) fun _ _ _ _ => trivial)) hr

/-- **The refinement.**  A transition of the model out of a reachable state is a step of the abstract pool or, if its label
configures only a maximum with `P`, a move of the abstract environment. -/
theorem next_pool {P : Nat → Prop} {s s' : State} {l : Label} (hr : Reachable s) (hl : ∀ t p n, l = .invoke t p (.setMax n) → P n)
    (hn : next s l = some s') : (∃ a, PStep s a s') ∨ PEnv P s s' := by
  rcases next_cases hn with ⟨a, act, -, ha, -, hst⟩ | he
  · exact .inl ⟨a, (hst.poolAcct (poolAcct_reachable hr) ha).1⟩
  · exact .inr (he.penv hl)

/-- the environment never configures a maximum of zero -/
def labelNz : Label → Bool
  | .invoke _ _ (.setMax n) => decide (1 ≤ n)
  | _ => true

/-- states reachable when the initial maximum and every maximum passed to set_max_threads is at least 1 -/
inductive ReachableNZ : State → Prop where
  | init (nq ng max : Nat) : 1 ≤ max → ReachableNZ (initState nq ng max)
  | initP (ps : List Bool) (ng max : Nat) : 1 ≤ max → ReachableNZ (initStateP ps ng max)
  | step {s s' : State} (l : Label) : ReachableNZ s → labelNz l = true → next s l = some s' → ReachableNZ s'

theorem ReachableNZ.reachable {s : State} (h : ReachableNZ s) : Reachable s := by
  induction h with
  | init nq ng max _ => exact Reachable.init nq ng max
  | initP ps ng max _ => exact Reachable.initP ps ng max
  | step l _ _ hs ih => exact Reachable.step l ih hs

theorem watchInv_reachable {s : State} (hr : ReachableNZ s) : WatchInv s := by
  suffices MaxInv (1 ≤ ·) s ∧ SchedW s from ⟨poolAcct_reachable hr.reachable, this.1, this.2⟩
  induction hr with
  | init nq ng max hle => exact ⟨⟨hle, fun _ => trivial⟩, fun hne => absurd rfl hne⟩
  | initP ps ng max hle => exact ⟨⟨hle, fun _ => trivial⟩, fun hne => absurd rfl hne⟩
  | step l hr hok hn ih =>
    have h := poolAcct_reachable hr.reachable
    rcases next_pool (P := (1 ≤ ·)) hr.reachable (fun _ _ n e => by subst e; exact of_decide_eq_true hok) hn with ⟨a, hp⟩ | pe
    · exact ⟨max_pstep ih.1 hp, sched_pstep h.po h.thr h.tl h.bl ih.1 hp ih.2⟩
    · exact ⟨ih.1.penv pe, ih.2.penv pe⟩

end Desync
