/-
The shape of the wakers the task-polling context builds (C06, second link of the chain latch → `DoubleWaker` → queue / task).
`SchedulerFuture::drain_queue` arms its `DrainWaker` latch with the queue's own `WakeQueue` waker (the polled future's result has
arrived: the queue is parked in `WaitingForWake`) or with a `DoubleWaker` built from the queue's waker and the polling task's context
waker (the queue is left `WaitingForPoll`).  So firing an unfired `DoubleWaker` reschedules the queue *and* has the task polled
again, and a wake-up that goes through a latch reaches a `WakeQueue::wake` after at most two hops.
-/
import DesyncModel.Inv.StepTables

namespace Desync
open Gen

/-- what `DrainWaker::wake_with` may be handed -/
def Waker.lvl1 : Waker → Bool
  | .queue _ | .double _ => true
  | _ => false

/-- every `wake_with` inside a pc (at its head or in a continuation) hands over a queue waker or a double waker -/
def Pc.ws : Pc → Bool
  | .begin _ k | .body _ k | .unwinding k => k.ws
  | .stReap k | .stScanLock k | .stScan _ k | .stScanHeld _ k | .stScanRel _ _ k
  | .stScanUnlock _ k | .stReadMax k | .stSpawn _ k | .stSpawnRel k => k.ws
  | .rqCs _ k | .rqNotifyAcq _ _ _ k | .rqNotify _ _ _ k | .rqNotifyRel _ _ _ k | .rqPush _ k => k.ws
  | .resumeSend _ k | .waking _ k | .openSend _ k | .wqCs _ k | .wtCs _ _ k | .wtUnpark _ k | .lwCs _ k | .dwCs _ k => k.ws
  | .rjDequeue _ k | .rjPending _ _ k | .rjParkCheck _ _ k | .rjPark _ _ k | .rjParked _ _ k => k.ws
  | .jobStart _ _ k | .jobAwait _ _ k | .jobBodyDone _ _ k | .jobEnd _ _ k | .jobSignal _ _ k
  | .jobSigDrop _ _ k | .jobDrop _ _ k | .jobDropNotify _ _ k | .suspSignal _ _ k | .suspSigDrop _ _ k => k.ws
  | .pfPollRel _ next => next.ws
  | .dqWakeWith _ _ w k => w.lvl1 && k.ws
  | .fdDrop _ k => k.ws
  | _ => true

/-- an unfired `DoubleWaker` holds a queue waker and a task waker -/
def DblOk (L : List (Option (Waker × Waker))) : Prop :=
  ∀ (d : Nat) (w1 w2 : Waker), L[d]? = some (some (w1, w2)) → ∃ q t, w1 = .queue q ∧ w2 = .task t

/-- the waker stored in a latch is a queue waker or a double waker -/
def LatOk (L : List (Latch × Option Waker)) : Prop :=
  ∀ (l : Nat) (st : Latch) (w : Waker), L[l]? = some (st, some w) → w.lvl1 = true

theorem DblOk.set_none {L : List (Option (Waker × Waker))} (h : DblOk L) (d0 : Nat) : DblOk (L.set d0 none) :=
  fun d w1 w2 hd => (getElem?_set_cases hd).elim (fun e => nomatch e.2) (h d w1 w2)

theorem DblOk.append {L : List (Option (Waker × Waker))} (h : DblOk L) (q t : Nat) : DblOk (L ++ [some (Waker.queue q, Waker.task t)]) := by
  intro d w1 w2 hd
  rcases getElem?_append_cases hd with hd | ⟨-, hm⟩
  · exact h d w1 w2 hd
  · cases List.mem_singleton.mp hm; exact ⟨q, t, rfl, rfl⟩

theorem LatOk.set {L : List (Latch × Option Waker)} (h : LatOk L) (l0 : Nat) (st0 : Latch) (w0 : Option Waker)
    (hw : ∀ w, w0 = some w → w.lvl1 = true) : LatOk (L.set l0 (st0, w0)) := by
  intro l st w hl
  rcases getElem?_set_cases hl with ⟨-, e⟩ | hl
  · cases e; exact hw w rfl
  · exact h l st w hl

theorem LatOk.append {L : List (Latch × Option Waker)} (h : LatOk L) : LatOk (L ++ [(Latch.notWoken, none)]) :=
  fun l st w hl => (getElem?_append_cases hl).elim (h l st w) (fun hm => nomatch List.mem_singleton.mp hm.2)

structure ShapeInv (s : State) : Prop where
  /-- every `DrainWaker::wake_with` in progress, at the head of a program counter or inside a continuation, hands the latch the queue's
  `WakeQueue` waker or a `DoubleWaker` -/
  ws : ∀ b, (s.pcAt b).ws = true
  /-- a `DoubleWaker` that has not been fired holds a queue waker and a polling task's waker, in that order -/
  dbl : DblOk s.doubles
  /-- the waker stored in a `DrainWaker` latch is a `WakeQueue` waker or a `DoubleWaker`: never a thread waker, a bare task waker or another latch -/
  lat : LatOk s.latches

/-- `DoubleWaker::wake` empties the double waker it fires; `drain_queue` builds a new one from the queue's waker and the task's. -/
theorem Step.dblOk {s s' : State} {a : Nat} {act : Act} (h : DblOk s.doubles) (hst : Step s a act s') : DblOk s'.doubles := by
  cases hst
  case dwCsWake | dwCsEmpty => simpa using h.set_none _
  case dqSetWfp => simpa using h.append _ _
  all_goals simpa using h

/-- `wake` leaves the stored waker or takes it out; `wake_with` stores what it is handed, which `ws` of the mover's program
counter says is a queue waker or a double waker. -/
theorem Step.latOk {s s' : State} {a : Nat} {act : Act} (h : LatOk s.latches) (hw : act.pc.ws = true) (hst : Step s a act s') :
    LatOk s'.latches := by
  rcases hst.latches_cases with e | e | ⟨l, st, w, hl, e | ⟨f, w', k, hpc, e⟩⟩ <;> rw [e]
  · exact h
  · exact h.append
  · refine h.set _ _ _ (fun x hx => ?_)
    split at hx
    · cases hx
    · exact h l st x (hx ▸ hl)
  · refine h.set _ _ _ (fun x hx => ?_)
    split at hx
    · cases hx
    · cases hx; exact (Bool.and_eq_true_iff.mp (hpc ▸ hw :)).1

theorem ws_ctxReady {k : Pc} (c : Ctx) (h : k.ws = true) : (ctxReady k c).ws = true := by
  cases c
  · exact h
  · rfl
  · rfl

theorem ws_ctxPending {k : Pc} (j : Nat) (c : Ctx) (h : k.ws = true) : (ctxPending j k c).ws = true := by
  cases c
  · exact h
  · rfl
  · rfl

/-- The mover's next program counter keeps the continuation of the old one, so it has the `wake_with`s the old one had; the only
new ones are those `drain_queue` starts, with the queue's waker or a double waker. -/
theorem Step.ws {s s' : State} {a : Nat} {act : Act} (ha : s.acts[a]? = some act) (hw : act.pc.ws = true) (hst : Step s a act s') :
    (s'.pcAt a).ws = true := by
  have hlt := hst.lt_acts ha
  cases hst
  case sbPrune => rw [pcAt_setQ, pcAt_goto_of_lt hlt]; rfl
  -- the rules that also write the mover's result or poll mode; none of them goes to a `wake_with`
  case tsBusy | pfPollReady | pollReadySfSched | pollPendingOnce | sfPollQueue | sfPollSched | sfPollCompleted | sfBlockedOnce
      | dqCheckReady | dqCheck2Ready | fsTakeReady =>
    rw [pcAt_setAct_of_lt hlt]; rfl
  all_goals rewrite [pcAt_goto_of_lt hlt]; rewrite [‹act.pc = _›] at hw
  case jobAwaitPendingSlot | jobAwaitPending => exact ws_ctxPending _ _ hw
  case jobDrop | jobDropNotify => exact ws_ctxReady _ hw
  case dqWakeWithNow | dqWakeWith => exact (Bool.and_eq_true_iff.mp hw).2
  -- everywhere else `ws` of the old and of the new program counter unfold to the same condition on the continuation
  all_goals exact hw

theorem Step.shapeInv {s s' : State} {a : Nat} {act : Act} (h : ShapeInv s) (ha : s.acts[a]? = some act) (hst : Step s a act s') :
    ShapeInv s' := by
  have hw : act.pc.ws = true := pcAt_of ha ▸ h.ws a
  refine ⟨fun b => ?_, hst.dblOk h.dbl, hst.latOk h.lat hw⟩
  by_cases hb : b = a
  · exact hb ▸ hst.ws ha hw
  · rw [hst.class_ne (C := Pc.ws) (fun _ => rfl) hb]; exact h.ws b

theorem EnvStep.shapeInv {s s' : State} {l : Label} (h : ShapeInv s) (he : EnvStep s l s') : ShapeInv s' := by
  refine ⟨fun b => ?_, he.sameCore.doubles ▸ h.dbl, he.sameCore.latches ▸ h.lat⟩
  refine he.pcAt_rel (R := fun pc pc' => pc.ws = true → pc'.ws = true)
    { refl := fun _ => id, body := fun _ _ => id, parked := fun _ _ _ => id, pfBlocked := fun _ _ => rfl, sfBlocked := fun _ _ => rfl,
      ret := fun _ => rfl, entry := fun hst _ => ?_ } b (h.ws b)
  cases hst <;> rfl

theorem shapeInv_reachable {s : State} (hr : Reachable s) : ShapeInv s := by
  have h0 : ∀ s : State, s.acts = [] → s.doubles = [] → s.latches = [] → ShapeInv s := fun s ha hd hl =>
    ⟨fun b => by rw [pcAt_of_nil ha]; rfl, by simp [hd, DblOk], by simp [hl, LatOk]⟩
  exact Reachable.invariant (fun _ _ _ => h0 _ rfl rfl rfl)
    (fun _ h ha _ hst => hst.shapeInv h ha) (fun _ h he => he.shapeInv h) hr

end Desync
