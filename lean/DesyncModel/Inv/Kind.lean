/-
A job's completion future belongs to the job's own queue (C07, C08, C13).  `future_desync`, `after`, `future_sync` and `suspend`
create their futures for a queue and then push a job that names them onto *that* queue, so the `SchedulerFuture` a job will signal
(and, for the slot job of `future_sync`, the `SyncFuture` it serves) belongs to the queue the job sits in.  So `.sync()` on a
returned future, which synchronises with the future's queue, waits on the object its operation really runs on.
-/
import DesyncModel.Inv.StepTables

namespace Desync
open Gen

def futQ (F : List Fut) (r : Nat) : Option Nat := (F[r]?).map (·.q)
def sfQ (S : List SyncFut) (u : Nat) : Option Nat := (S[u]?).map (·.q)

/-- the futures named by a job kind belong to queue `q` -/
def KindOk (F : List Fut) (S : List SyncFut) (q : Nat) : JobKind → Prop
  | .fut _ _ r => futQ F r = some q
  | .after _ _ r => futQ F r = some q
  | .slot u r => futQ F r = some q ∧ sfQ S u = some q
  | .susp _ _ fs r => futQ F fs = some q ∧ futQ F r = some q
  | _ => True

theorem futQ_mono {F F' : List Fut} (h : FutsMono F F') {r q : Nat} (hq : futQ F r = some q) : futQ F' r = some q := by
  obtain ⟨fu, hf, rfl⟩ := Option.map_eq_some_iff.mp hq
  obtain ⟨fu', h1, h2⟩ := h r fu hf
  rw [futQ, h1, Option.map_some, h2]

theorem sfQ_mono {S S' : List SyncFut} (h : SfsMono S S') {u q : Nat} (hq : sfQ S u = some q) : sfQ S' u = some q := by
  obtain ⟨sf, hf, rfl⟩ := Option.map_eq_some_iff.mp hq
  obtain ⟨sf', h1, -, h2, -⟩ := h u sf hf
  rw [sfQ, h1, Option.map_some, h2]

theorem KindOk.mono {F F' : List Fut} {S S' : List SyncFut} (hF : FutsMono F F') (hS : SfsMono S S') {q : Nat} {k : JobKind}
    (h : KindOk F S q k) : KindOk F' S' q k := by
  cases k <;> simp only [KindOk] at h ⊢
  · exact futQ_mono hF h
  · exact futQ_mono hF h
  · exact ⟨futQ_mono hF h.1, sfQ_mono hS h.2⟩
  · exact ⟨futQ_mono hF h.1, futQ_mono hF h.2⟩

/-- the `schedule_job_desync` calls an activity has in progress: at its head or inside a continuation -/
def Pc.dsPushes : Pc → List (Nat × JobKind)
  | .dsPush q kind => [(q, kind)]
  | .begin _ k | .body _ k | .unwinding k => k.dsPushes
  | .stReap k | .stScanLock k | .stScan _ k | .stScanHeld _ k | .stScanRel _ _ k
  | .stScanUnlock _ k | .stReadMax k | .stSpawn _ k | .stSpawnRel k => k.dsPushes
  | .rqCs _ k | .rqNotifyAcq _ _ _ k | .rqNotify _ _ _ k | .rqNotifyRel _ _ _ k | .rqPush _ k => k.dsPushes
  | .resumeSend _ k | .waking _ k | .openSend _ k | .wqCs _ k | .wtCs _ _ k | .wtUnpark _ k | .lwCs _ k | .dwCs _ k => k.dsPushes
  | .rjDequeue _ k | .rjPending _ _ k | .rjParkCheck _ _ k | .rjPark _ _ k | .rjParked _ _ k => k.dsPushes
  | .jobStart _ _ k | .jobAwait _ _ k | .jobBodyDone _ _ k | .jobEnd _ _ k | .jobSignal _ _ k
  | .jobSigDrop _ _ k | .jobDrop _ _ k | .jobDropNotify _ _ k | .suspSignal _ _ k | .suspSigDrop _ _ k => k.dsPushes
  | .pfPollRel _ next => next.dsPushes
  | .dqWakeWith _ _ _ k => k.dsPushes
  | .fdDrop _ k => k.dsPushes
  | _ => []

/-- job kinds that name no future -/
def JobKind.plainK : JobKind → Bool
  | .plain _ | .immediate _ _ | .erasedDrain _ _ | .erasedBg _ _ => true
  | _ => false

theorem KindOk.of_plain {F S q} {k : JobKind} (h : k.plainK = true) : KindOk F S q k := by
  cases k <;> simp_all [JobKind.plainK, KindOk]

structure KindInv (s : State) : Prop where
  /-- the job a `schedule_job_desync` in progress is about to push names only futures that belong to the queue it is pushed onto -/
  pcs : ∀ (a q : Nat) (kind : JobKind), (q, kind) ∈ (s.pcAt a).dsPushes → KindOk s.futs s.sfs q kind
  /-- the future a job will signal (for a slot job also the `SyncFuture` it serves, for a suspend job both its futures) belongs to the
  queue the job was scheduled on -/
  jobs : ∀ (j : Nat) (jb : Job), s.jobs[j]? = some jb → KindOk s.futs s.sfs jb.q jb.kind

def KindMono (s X : State) (a : Nat) : Prop :=
  ∀ (j : Nat) (jb' : Job), X.jobs[j]? = some jb' →
    (∃ jb, s.jobs[j]? = some jb ∧ jb'.q = jb.q ∧ jb'.kind = jb.kind) ∨ jb'.kind.plainK = true ∨ (jb'.q, jb'.kind) ∈ (s.pcAt a).dsPushes

theorem KindMono.same {s X : State} {a : Nat} (h : X.jobs = s.jobs) : KindMono s X a := fun j jb hj => Or.inl ⟨jb, by rw [← h]; exact hj, rfl, rfl⟩

theorem KindMono.setJob {s X : State} {a j : Nat} {b v : Job} (e : X.jobs = s.jobs.set j v) (hb : s.jobs[j]? = some b) (hq : v.q = b.q)
    (hk : v.kind = b.kind) : KindMono s X a := by
  intro j' jb hj
  rcases getElem?_set_cases (e ▸ hj) with ⟨rfl, rfl⟩ | hj
  · exact .inl ⟨b, hb, hq, hk⟩
  · exact .inl ⟨jb, hj, rfl, rfl⟩

theorem KindMono.append {s X : State} {a : Nat} {l : List Job} (hX : X.jobs = s.jobs ++ l)
    (hl : ∀ x ∈ l, x.kind.plainK = true ∨ (x.q, x.kind) ∈ (s.pcAt a).dsPushes) : KindMono s X a :=
  fun _ jb hj => (getElem?_append_cases (hX ▸ hj)).elim (fun hj => .inl ⟨jb, hj, rfl, rfl⟩) (fun hm => .inr (hl jb hm.2))

/-- A new job is the one the mover's `schedule_job_desync` was called with, or one of `sync`'s own, which name no future. -/
theorem Step.kindMono {s s' : State} {a : Nat} {act : Act} (ha : s.acts[a]? = some act) (hst : Step s a act s') : KindMono s s' a := by
  rcases hst.jobs_cases with e | ⟨j, b, v, hb, e, hq, hk, -⟩ | ⟨n, e, -, hn⟩
  · exact .same e
  · exact .setJob e hb hq hk
  · refine .append e (fun x hx => ?_)
    cases List.mem_singleton.mp hx
    rcases hn with hpc | ⟨b, hk | hk | hk⟩
    · exact .inr (by rw [pcAt_of ha, hpc]; exact List.mem_singleton.mpr rfl)
    · exact .inl (by rw [hk]; rfl)
    · exact .inl (by rw [hk]; rfl)
    · exact .inl (by rw [hk]; rfl)

def DsSub (s X : State) : Prop :=
  ∀ (b q : Nat) (kind : JobKind), (q, kind) ∈ (X.pcAt b).dsPushes → (q, kind) ∈ (s.pcAt b).dsPushes

theorem dsPushes_ctxReady (k : Pc) (c : Ctx) : (ctxReady k c).dsPushes ⊆ k.dsPushes := by
  cases c
  · exact List.Subset.refl _
  · exact List.nil_subset _
  · exact List.nil_subset _

theorem dsPushes_ctxPending (j : Nat) (k : Pc) (c : Ctx) : (ctxPending j k c).dsPushes ⊆ k.dsPushes := by
  cases c
  · exact List.Subset.refl _
  · exact List.nil_subset _
  · exact List.nil_subset _

/-- The mover's next program counter keeps the continuation of the old one and starts no `schedule_job_desync`: those only come
with the call. -/
theorem Step.dsPushes_self {s s' : State} {a : Nat} {act : Act} (ha : s.acts[a]? = some act) (hst : Step s a act s') :
    (s'.pcAt a).dsPushes ⊆ act.pc.dsPushes := by
  have hlt := hst.lt_acts ha
  cases hst
  case sbPrune => rw [pcAt_setQ, pcAt_goto_of_lt hlt]; exact List.nil_subset _
  -- the rules that also write the mover's result or poll mode; the program counters they go to contain no push
  case tsBusy | pfPollReady | pollReadySfSched | pollPendingOnce | sfPollQueue | sfPollSched | sfPollCompleted | sfBlockedOnce
      | dqCheckReady | dqCheck2Ready | fsTakeReady =>
    rw [pcAt_setAct_of_lt hlt]; exact List.nil_subset _
  all_goals rewrite [pcAt_goto_of_lt hlt, ‹act.pc = _›]
  case jobAwaitPendingSlot | jobAwaitPending => exact dsPushes_ctxPending _ _ _
  case jobDrop | jobDropNotify => exact dsPushes_ctxReady _ _
  case dsPushSchedule | dsPushNone | dsPushPanic => exact List.nil_subset _
  -- everywhere else `dsPushes` of the old and of the new program counter unfold to that of the same continuation
  all_goals exact List.Subset.refl _

theorem Step.dsSub {s s' : State} {a : Nat} {act : Act} (ha : s.acts[a]? = some act) (hst : Step s a act s') : DsSub s s' := by
  intro b q kind hb
  by_cases hba : b = a
  · subst hba; rw [pcAt_of ha]; exact hst.dsPushes_self ha hb
  · rwa [hst.class_ne (C := Pc.dsPushes) (fun _ => rfl) hba] at hb

theorem Step.kindInv {s s' : State} {a : Nat} {act : Act} (h : KindInv s) (ha : s.acts[a]? = some act) (hst : Step s a act s') :
    KindInv s' := by
  obtain ⟨hF, hS⟩ := hst.futsSfsMono
  refine ⟨fun b q kind hb => (h.pcs b q kind (hst.dsSub ha b q kind hb)).mono hF hS, fun j jb' hj => ?_⟩
  rcases hst.kindMono ha j jb' hj with ⟨jb, h1, h2, h3⟩ | h1 | h1
  · rw [h2, h3]; exact (h.jobs j jb h1).mono hF hS
  · exact KindOk.of_plain h1
  · exact (h.pcs a _ _ h1).mono hF hS

theorem Starts.kindOk {s s0 : State} {c : Call} {pc : Pc} {once : Bool} (hst : Starts s c s0 pc once) (q : Nat) (kind : JobKind)
    (hm : (q, kind) ∈ pc.dsPushes) : KindOk s0.futs s0.sfs q kind := by
  cases hst
  case desync => cases List.mem_singleton.mp hm; trivial
  case fdesync | after => cases List.mem_singleton.mp hm; simp [KindOk, futQ, Fut.fresh]
  case fsync => cases List.mem_singleton.mp hm; simp [KindOk, futQ, sfQ, Fut.fresh]
  case suspend => cases List.mem_singleton.mp hm; simp [KindOk, futQ, Fut.fresh]
  all_goals cases hm

theorem EnvStep.kindInv {s s' : State} {l : Label} (h : KindInv s) (he : EnvStep s l s') : KindInv s' := by
  refine ⟨fun b q kind hb => ?_, fun j jb hj => (h.jobs j jb (he.sameCore.jobs ▸ hj)).mono he.futsSfsMono.1 he.futsSfsMono.2⟩
  have old : (q, kind) ∈ (s.pcAt b).dsPushes → KindOk s'.futs s'.sfs q kind := fun hb =>
    (h.pcs b q kind hb).mono he.futsSfsMono.1 he.futsSfsMono.2
  have move : ∀ {a act pc'}, s.acts[a]? = some act → pc'.dsPushes ⊆ act.pc.dsPushes → (q, kind) ∈ ((s.goto a pc').pcAt b).dsPushes →
      (q, kind) ∈ (s.pcAt b).dsPushes := by
    intro a act pc' ha hsub hb
    rw [pcAt_goto] at hb; split at hb
    · next e => rw [← e.1, pcAt_of ha]; exact hsub hb
    · exact hb
  cases he
  case invoke t parent c s0 pc once _ hst =>
    rw [pcAt_addAct] at hb; split at hb
    · simp only [addAct_fst, futs_setChild, sfs_setChild]; exact hst.kindOk q kind hb
    · exact old (by simpa only [State.pcAt, hst.sameCore.2] using hb)
  case bodyEnd ha _ hpc => exact old (move ha (hpc ▸ List.Subset.refl _) hb)
  case unpark ha hpc => exact old (move ha (hpc ▸ List.Subset.refl _) hb)
  case repoll ha hpc => exact old (move ha (List.nil_subset _) hb)
  case repollSf ha hpc => exact old (move ha (List.nil_subset _) hb)
  case ret a act ha hpc =>
    rw [pcAt_setChild, pcAt_setAct] at hb; split at hb
    · cases hb
    · exact old hb

theorem kindInv_reachable {s : State} (hr : Reachable s) : KindInv s :=
  Reachable.invariant
    (fun _ _ _ => ⟨fun a q kind hm => (nomatch (hm : _ ∈ [])),
      by intro j jb hj; simp [initStateP, initState] at hj⟩)
    (fun _ h ha _ hst => hst.kindInv h ha) (fun _ h he => he.kindInv h) hr

/-! `KindMono` and `DsSub` under single updates; `Step.kindMono` and `Step.dsSub` need none of these. -/

theorem KindMono.dequeue (s : State) (q a b : Nat) : KindMono s (s.dequeue q b).1 a := by
  rcases s.jobs_dequeue_cases q b with e | ⟨j, jb, hb, e⟩
  · exact .same e
  · exact .setJob e hb rfl rfl

theorem KindMono.setAct_of {s Y : State} {a b : Nat} {v : Act} (h : KindMono s Y a) : KindMono s (Y.setAct b v) a := h

theorem KindMono.setQ_of {s Y : State} {a q : Nat} {v : JobQ} (h : KindMono s Y a) : KindMono s (Y.setQ q v) a := h

theorem DsSub.same {s X : State} (hX : ∀ b, X.pcAt b = s.pcAt b) : DsSub s X := by
  intro b q kind hb; rw [hX] at hb; exact hb

end Desync
