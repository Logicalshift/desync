/-
No orphaned queues (C03, C04, C09): a queue whose state says somebody is running it (`QState.held`) always has an owner, the converse of
`HolderInv.held`.  So no call can return — and no thread can go away — leaving a queue marked as running behind: such a queue would
refuse `try_sync` forever, make `sync` wait forever and never run its jobs.
-/
import DesyncModel.Inv.HolderReach
namespace Desync
open Gen

def State.hol (s : State) (q : Nat) : Option (Option Nat) := s.holder[q]?

structure OwnedInv (s : State) : Prop where
  owned : ∀ q st, s.qSt q = some st → st.held = true → ∃ a, s.hol q = some (some a)

theorem hol_congr {X s : State} (h : X.holder = s.holder) (q : Nat) : X.hol q = s.hol q := by simp only [State.hol, h]

theorem OwnedInv.same {s Y : State} (h : OwnedInv s) (hq : Y.qs = s.qs) (hh : Y.holder = s.holder) : OwnedInv Y :=
  ⟨fun q st hs hheld => hol_congr hh q ▸ h.owned q st (qSt_congr hq q ▸ hs) hheld⟩

theorem OwnedInv.of_qeffect {s s' : State} {a : Nat} (hh : HolderInv s) (h : OwnedInv s) (he : QEffect s a s') : OwnedInv s' := by
  refine ⟨fun q st' hs hheld => ?_⟩
  -- away from the queue that is written to, state word and owner are as before
  have others : ∀ {q0 : Nat} {x : Option Nat}, (∀ q, q ≠ q0 → s'.qSt q = s.qSt q) → s'.holder = s.holder.set q0 x → q ≠ q0 →
      ∃ b, s'.hol q = some (some b) := fun ho hho e => by
    rw [State.hol, hho, List.getElem?_set_ne (Ne.symm e)]; exact h.owned q st' (ho q e ▸ hs) hheld
  cases he with
  | frame hq hho _ => rw [hol_congr hho]; exact h.owned q st' (hq q ▸ hs) hheld
  | @keep q0 st _ hb ha ho hk hho _ =>
    rw [hol_congr hho]
    by_cases e : q = q0
    · subst e; exact h.owned q st hb (by rw [← hk.1, ← Option.some.inj (hs.symm.trans ha)]; exact hheld)
    · exact h.owned q st' (ho q e ▸ hs) hheld
  | @acquire q0 _ hb _ ho _ hho _ _ =>
    by_cases e : q = q0
    · obtain ⟨v, hv, -⟩ := qSt_some hb
      have hlt : q0 < s.holder.length := by rw [hh.len]; exact lt_of_getElem?_some hv
      exact ⟨a, by rw [e, State.hol, hho]; simp [hlt]⟩
    · exact others ho hho e
  | @release q0 _ ha ho hidle hho _ _ =>
    by_cases e : q = q0
    · rw [e, ha] at hs; rw [← Option.some.inj hs, hidle] at hheld; cases hheld
    · exact others ho hho e

theorem Step.ownedInv {s s' : State} {a : Nat} {act : Act} (hh : HolderInv s) (h : OwnedInv s) (ha : s.acts[a]? = some act)
    (hst : Step s a act s') : OwnedInv s' :=
  h.of_qeffect hh (hst.qeffect hh ha)

theorem ownedInv_initP (ps : List Bool) (ng max : Nat) : OwnedInv (initStateP ps ng max) := by
  refine ⟨fun q st hs hheld => ?_⟩
  rcases qSt_initP hs with h | h <;> subst h <;> simp [QState.held] at hheld

theorem ownedInv_reachable {s : State} (hr : Reachable s) : OwnedInv s :=
  hr.invariant ownedInv_initP (fun hr h ha _ hst => hst.ownedInv (holderInv_reachable hr) h ha)
    (fun _ h he => h.same he.sameCore.qs he.sameCore.holder)

/-- The owner is an activity whose program counter is inside the code that runs the queue.  So once every call has returned and the
pool threads are idle no queue is in a held state (`no_orphaned_running_queue`): the class of defect F1 (`try_sync` marked the queue
running and returned `Busy`).  The same symptom after a panic in a job (F5) is outside the model, which has no step for a panicking
job: there the answer is that every runner holds the guard (`guarded_all_runners`). -/
theorem running_queue_has_a_runner {s : State} (hr : Reachable s) {q : Nat} {v : JobQ} (hv : s.qs[q]? = some v) (hheld : v.state.held = true) :
    ∃ a, (s.pcAt a).holds q = true := by
  obtain ⟨a, ha⟩ := (ownedInv_reachable hr).owned q v.state (qSt_of hv) hheld
  exact ⟨a, ((holderInv_reachable hr).iff a q).mpr ha⟩

theorem no_orphaned_running_queue {s : State} (hr : Reachable s) (hidle : ∀ a q, (s.pcAt a).holds q = false)
    {q : Nat} {v : JobQ} (hv : s.qs[q]? = some v) : v.state.held = false := by
  cases hx : v.state.held with
  | false => rfl
  | true =>
    obtain ⟨a, ha⟩ := running_queue_has_a_runner hr hv hx
    rw [hidle a q] at ha; cases ha

/-! `OwnedInv` across the single updates a rule is made of — a table's or a literal state written together with the owner being set
or cleared.  The step theorem reads the four effects of `QEffect` and needs none of these. -/

theorem hol_setHolder {s : State} {q : Nat} (hlt : q < s.holder.length) (x : Option Nat) (i : Nat) :
    (s.setHolder q x).hol i = if i = q then some x else s.hol i := by
  simp only [State.hol, holder_setHolder, List.getElem?_set]
  by_cases h : q = i
  · subst h; simp [hlt]
  · have : ¬ i = q := fun e => h e.symm
    simp [h, this]

theorem OwnedInv.grant {s X : State} {q a : Nat} (h : OwnedInv s) (hlt : q < X.holder.length)
    (hq : ∀ i, i ≠ q → X.qSt i = s.qSt i) (hh : X.holder = s.holder) : OwnedInv (X.setHolder q (some a)) := by
  refine ⟨fun i st hs hheld => ?_⟩
  rw [qSt_setHolder] at hs
  rw [hol_setHolder hlt]
  split
  · exact ⟨a, rfl⟩
  · next hne => rw [hol_congr hh]; exact h.owned i st (hq i hne ▸ hs) hheld

theorem OwnedInv.release {s X : State} {q : Nat} (h : OwnedInv s) (hlt : q < X.holder.length)
    (hq : ∀ i, i ≠ q → X.qSt i = s.qSt i) (hnew : ∀ st, X.qSt q = some st → st.held = false) (hh : X.holder = s.holder) :
    OwnedInv (X.setHolder q none) := by
  refine ⟨fun i st hs hheld => ?_⟩
  rw [qSt_setHolder] at hs
  rw [hol_setHolder hlt]
  split
  · next e => rw [e] at hs; rw [hnew st hs] at hheld; cases hheld
  · next hne => rw [hol_congr hh]; exact h.owned i st (hq i hne ▸ hs) hheld

@[simp] theorem hol_setQ (s : State) (q : Nat) (v : JobQ) (i : Nat) : (s.setQ q v).hol i = s.hol i := hol_congr (by simp) i

@[simp] theorem hol_setAct (s : State) (a : Nat) (v : Act) (i : Nat) : (s.setAct a v).hol i = s.hol i := hol_congr (by simp) i

@[simp] theorem hol_setQState (s : State) (q : Nat) (st : QState) (i : Nat) : (s.setQState q st).hol i = s.hol i := hol_congr (by simp) i

theorem OwnedInv.table_grant {s : State} {q a : Nat} {v v' : JobQ} (hh : HolderInv s) (h : OwnedInv s) (hv : s.qs[q]? = some v) :
    OwnedInv ((s.setQ q v').setHolder q (some a)) := by
  have hlt : q < s.holder.length := by rw [hh.len]; exact lt_of_getElem?_some hv
  refine OwnedInv.grant h (by simpa using hlt) (fun i hne => ?_) (by simp)
  rw [qSt_setQ hv]; simp [hne]

theorem OwnedInv.table_release {s : State} {q : Nat} {v v' : JobQ} (hh : HolderInv s) (h : OwnedInv s) (hv : s.qs[q]? = some v)
    (hn : v'.state.held = false) : OwnedInv ((s.setQ q v').setHolder q none) := by
  have hlt : q < s.holder.length := by rw [hh.len]; exact lt_of_getElem?_some hv
  refine OwnedInv.release h (by simpa using hlt) (fun i hne => ?_) (fun st hs => ?_) (by simp)
  · rw [qSt_setQ hv]; simp [hne]
  · rw [qSt_setQ hv] at hs; simp at hs; rw [← hs]; exact hn

theorem OwnedInv.lit_release {s : State} {q : Nat} {st' : QState} (hh : HolderInv s) (h : OwnedInv s) (hn : st'.held = false) :
    OwnedInv ((s.setQState q st').setHolder q none) := by
  unfold State.setQState
  split
  · next v hv => exact OwnedInv.table_release hh h hv hn
  · next hnone =>
    -- no such queue: neither update does anything
    have hge : s.holder.length ≤ q := by rw [hh.len]; simpa using hnone
    exact h.same rfl (List.set_eq_of_length_le hge)

theorem OwnedInv.setJob_of {Y : State} {j : Nat} {v : Job} (h : OwnedInv Y) : OwnedInv (Y.setJob j v) := OwnedInv.same h (by simp) (by simp)

theorem syncNoPanicDecide_heldKeep {st : QState} {e : Bool} (h1 : ¬ (syncNoPanicDecide st e).2 = .immediate) (h2 : ¬ (syncNoPanicDecide st e).2 = .drain)
    (hk : (syncNoPanicDecide st e).1.held = true) : st.held = true :=
  (if_neg (not_or.mpr ⟨h1, h2⟩)).mp (syncNoPanicDecide_entry st e) ▸ hk

end Desync
