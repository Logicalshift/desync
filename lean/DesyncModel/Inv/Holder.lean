/-
I_runRight: the ghost `holder` field names, for every queue, exactly the activity whose program
counter lies in the region of the code that owns the run right of that queue; and a queue that has
a holder is in one of the three states in which only the holder may touch its jobs.
-/
import DesyncModel.Inv.Acts

namespace Desync
open Gen

/-- the queue a pool thread has just taken from the schedule -/
def gotHolds : Option Nat → Nat → Bool
  | some q', q => q' == q
  | none, _ => false

/-- Does an activity at program counter `pc` own the run right of queue `q`? -/
def Pc.holds : Pc → Nat → Bool
  | .begin _ k, q | .body _ k, q | .unwinding k, q => k.holds q
  | .stReap k, q | .stScanLock k, q | .stScan _ k, q | .stScanHeld _ k, q | .stScanRel _ _ k, q
  | .stScanUnlock _ k, q | .stReadMax k, q | .stSpawn _ k, q | .stSpawnRel k, q => k.holds q
  | .rqCs _ k, q | .rqNotifyAcq _ _ _ k, q | .rqNotify _ _ _ k, q | .rqNotifyRel _ _ _ k, q | .rqPush _ k, q => k.holds q
  | .resumeSend _ k, q | .waking _ k, q | .openSend _ k, q | .wqCs _ k, q | .wtCs _ _ k, q | .wtUnpark _ k, q | .lwCs _ k, q | .dwCs _ k, q => k.holds q
  | .siIdle q' _, q => q' == q
  | .sdPush q' _, q | .sdCheck q' _, q | .sdIdle q', q => q' == q
  | .sbClaimRel q' _ c, q => c && q' == q
  | .sbRelReady q' _, q | .sbStealTest q' _, q | .sbStealIdle q' _, q => q' == q
  | .rjDequeue _ k, q | .rjPending _ _ k, q | .rjParkCheck _ _ k, q | .rjPark _ _ k, q | .rjParked _ _ k, q => k.holds q
  | .jobStart _ c k, q | .jobAwait _ c k, q | .jobBodyDone _ c k, q | .jobEnd _ c k, q | .jobSignal _ c k, q
  | .jobSigDrop _ c k, q | .jobDrop _ c k, q | .jobDropNotify _ c k, q | .suspSignal _ c k, q | .suspSigDrop _ c k, q =>
      (match c with | .caller _ => k.holds q | .pool _ q' => q' == q | .task _ _ q' => q' == q)
  | .ptUnlockSched _ g, q | .ptUnlockBusy _ g, q => gotHolds g q
  | .pdDequeue _ q', q | .pdRequeue _ q' _, q | .pdPending _ q', q | .pdExit _ q', q => q' == q
  | .pfPollRel _ next, q => next.holds q
  | .dqCheck _ q', q | .dqDequeue _ q', q | .dqRequeue _ _ _ q', q | .dqCheck2 _ _ q', q | .dqSetWfw _ _ q', q
  | .dqStore _ _ q', q | .dqSetWfp _ _ q', q | .dqStore2 _ q', q | .dqIdle2 _ q', q | .dqIdle _ q', q => q' == q
  | .dqWakeWith _ _ _ k, q => k.holds q
  | .fdDrop _ k, q => k.holds q
  | _, _ => false

/-- the three states in which a holder exists -/
def QState.held : QState → Bool
  | .running | .awokenWhileRunning | .waitingForUnpark => true
  | _ => false

structure HolderInv (s : State) : Prop where
  len : s.holder.length = s.qs.length
  iff : ∀ (a q : Nat), (s.pcAt a).holds q = true ↔ s.holder[q]? = some (some a)
  held : ∀ (a q : Nat) (v : JobQ), s.holder[q]? = some (some a) → s.qs[q]? = some v → v.state.held = true

theorem HolderInv.exclusive {s : State} (h : HolderInv s) {a b q : Nat} (ha : (s.pcAt a).holds q = true)
    (hb : (s.pcAt b).holds q = true) : a = b :=
  Option.some.inj (Option.some.inj (((h.iff a q).mp ha).symm.trans ((h.iff b q).mp hb)))

theorem holderInv_initP (ps : List Bool) (ng max : Nat) : HolderInv (initStateP ps ng max) := by
  have hno : ∀ (a q : Nat), (initStateP ps ng max).holder[q]? ≠ some (some a) := fun a q h => by
    simp [initStateP, initState, List.getElem?_replicate] at h
  exact ⟨by simp [initStateP, initState], fun a q => ⟨fun h => (nomatch (h : false = true)), fun h => absurd h (hno a q)⟩,
    fun a q _ h => absurd h (hno a q)⟩

theorem HolderInv.keep {s s' : State} (h : HolderInv s) (hpc : ∀ b q, (s'.pcAt b).holds q = (s.pcAt b).holds q)
    (hho : s'.holder = s.holder) (hqlen : s'.qs.length = s.qs.length)
    (hst : ∀ (q : Nat) (v' : JobQ), s'.qs[q]? = some v' → ∃ v, s.qs[q]? = some v ∧ (v.state.held = true → v'.state.held = true)) :
    HolderInv s' := by
  refine ⟨by rw [hho, hqlen]; exact h.len, fun b q => by rw [hpc, hho]; exact h.iff b q, fun b q v' hb hv' => ?_⟩
  obtain ⟨v, hv, himp⟩ := hst q v' hv'
  exact himp (h.held b q v (hho ▸ hb) hv)

/-- A step in which activity `a` takes (`nh = some a`) or gives up (`nh = none`) the run right of `q0`. -/
theorem HolderInv.update {s s' : State} {a : Nat} {pc' : Pc} (h : HolderInv s) (q0 : Nat) (nh : Option Nat)
    (hpc : ∀ b q, (s'.pcAt b).holds q = if a = b then pc'.holds q else (s.pcAt b).holds q)
    (hho : s'.holder = s.holder.set q0 nh) (hqlen : s'.qs.length = s.qs.length) (hq0 : q0 < s.qs.length)
    (hnh : nh = none ∨ nh = some a)
    (hholds : ∀ q, pc'.holds q = if q = q0 then (nh == some a) else (s.pcAt a).holds q)
    (hpre : s.holder[q0]? = some none ∨ s.holder[q0]? = some (some a))
    (hst0 : nh = some a → ∀ v', s'.qs[q0]? = some v' → v'.state.held = true)
    (hst : ∀ (q : Nat) (v' : JobQ), q ≠ q0 → s'.qs[q]? = some v' → ∃ v, s.qs[q]? = some v ∧ (v.state.held = true → v'.state.held = true)) :
    HolderInv s' := by
  have hq0h : q0 < s.holder.length := h.len ▸ hq0
  -- nobody but `a` claims `q0`, before or after
  have hne : ∀ b, a ≠ b → (s.pcAt b).holds q0 = false ∧ nh ≠ some b := fun b hab => by
    refine ⟨?_, by rcases hnh with rfl | rfl <;> simp [hab]⟩
    cases hx : (s.pcAt b).holds q0 with
    | false => rfl
    | true =>
      have := (h.iff b q0).mp hx
      rcases hpre with hp | hp <;> rw [hp] at this <;> cases this
      exact absurd rfl hab
  refine ⟨by rw [hho, hqlen, List.length_set]; exact h.len, fun b q => ?_, fun b q v' hb hv' => ?_⟩
  · rw [hpc, hho, List.getElem?_set]
    by_cases hq : q0 = q
    · subst hq
      rw [if_pos rfl, if_pos hq0h]
      by_cases hab : a = b
      · subst hab; rw [if_pos rfl, hholds, if_pos rfl]; simp
      · rw [if_neg hab, (hne b hab).1]; simp [(hne b hab).2]
    · rw [if_neg hq]
      by_cases hab : a = b
      · subst hab; rw [if_pos rfl, hholds, if_neg (Ne.symm hq)]; exact h.iff a q
      · rw [if_neg hab]; exact h.iff b q
  · rw [hho, List.getElem?_set] at hb
    by_cases hq : q0 = q
    · subst hq
      rw [if_pos rfl, if_pos hq0h] at hb
      rcases hnh with rfl | rfl
      · cases hb
      · exact hst0 rfl v' hv'
    · rw [if_neg hq] at hb
      obtain ⟨v, hv, himp⟩ := hst q v' (Ne.symm hq) hv'
      exact himp (h.held b q v hb hv)

/-- which queue a job-running context owns -/
def ctxHolds (k : Pc) (q : Nat) : Ctx → Bool
  | .caller _ => k.holds q
  | .pool _ q' => q' == q
  | .task _ _ q' => q' == q

@[simp] theorem holds_ctxPending (j : Nat) (k : Pc) (c : Ctx) (q : Nat) : (ctxPending j k c).holds q = ctxHolds k q c := by
  cases c <;> rfl

@[simp] theorem holds_ctxReady (k : Pc) (c : Ctx) (q : Nat) : (ctxReady k c).holds q = ctxHolds k q c := by
  cases c <;> rfl

theorem holds_jobStart (j : Nat) (c : Ctx) (k : Pc) (q : Nat) : (Pc.jobStart j c k).holds q = ctxHolds k q c := by
  cases c <;> rfl
theorem holds_jobAwait (j : Nat) (c : Ctx) (k : Pc) (q : Nat) : (Pc.jobAwait j c k).holds q = ctxHolds k q c := by
  cases c <;> rfl
theorem holds_jobBodyDone (j : Nat) (c : Ctx) (k : Pc) (q : Nat) : (Pc.jobBodyDone j c k).holds q = ctxHolds k q c := by
  cases c <;> rfl
theorem holds_jobEnd (j : Nat) (c : Ctx) (k : Pc) (q : Nat) : (Pc.jobEnd j c k).holds q = ctxHolds k q c := by
  cases c <;> rfl
theorem holds_jobSignal (j : Nat) (c : Ctx) (k : Pc) (q : Nat) : (Pc.jobSignal j c k).holds q = ctxHolds k q c := by
  cases c <;> rfl
theorem holds_jobSigDrop (j : Nat) (c : Ctx) (k : Pc) (q : Nat) : (Pc.jobSigDrop j c k).holds q = ctxHolds k q c := by
  cases c <;> rfl
theorem holds_jobDrop (j : Nat) (c : Ctx) (k : Pc) (q : Nat) : (Pc.jobDrop j c k).holds q = ctxHolds k q c := by
  cases c <;> rfl
theorem holds_jobDropNotify (j : Nat) (c : Ctx) (k : Pc) (q : Nat) : (Pc.jobDropNotify j c k).holds q = ctxHolds k q c := by
  cases c <;> rfl
@[simp] theorem ctxHolds_caller (k : Pc) (q q' : Nat) : ctxHolds k q (.caller q') = k.holds q := rfl
@[simp] theorem ctxHolds_pool (k : Pc) (q p q' : Nat) : ctxHolds k q (.pool p q') = (q' == q) := rfl
@[simp] theorem ctxHolds_task (k : Pc) (q f l q' : Nat) : ctxHolds k q (.task f l q') = (q' == q) := rfl

theorem HolderInv.free {s : State} (h : HolderInv s) {q : Nat} {v : JobQ} (hq : s.qs[q]? = some v)
    (hst : v.state.held = false) : s.holder[q]? = some none := by
  have hlt : q < s.holder.length := by rw [h.len]; exact lt_of_getElem?_some hq
  have hx : s.holder[q]? = some s.holder[q] := List.getElem?_eq_getElem hlt
  cases hv : s.holder[q] with
  | none => rw [hx, hv]
  | some b =>
    have := h.held b q v (by rw [hx, hv]) hq
    rw [hst] at this; cases this

theorem HolderInv.mine {s : State} (h : HolderInv s) {a q : Nat} {act : Act} (ha : s.acts[a]? = some act)
    (hh : act.pc.holds q = true) : s.holder[q]? = some (some a) ∧ ∃ v, s.qs[q]? = some v := by
  have h1 := (h.iff a q).mp (by rw [pcAt_of ha]; exact hh)
  refine ⟨h1, ?_⟩
  have hlt : q < s.qs.length := by rw [← h.len]; exact lt_of_getElem?_some h1
  exact ⟨s.qs[q], List.getElem?_eq_getElem hlt⟩

/-! `HolderInv` across the updates of a rule whose activity takes or gives up the run right of a queue whose record it rewrites.  The
step theorem (`HolderInv.of_qeffect`) calls `update` directly and needs neither. -/

theorem hpc_setAct {s X : State} {a : Nat} {v : Act}
    (hX : ∀ b q, (X.pcAt b).holds q = (s.pcAt b).holds q) (ha : a < X.acts.length) :
    ∀ b q, ((X.setAct a v).pcAt b).holds q = if a = b then v.pc.holds q else (s.pcAt b).holds q := by
  intro b q
  rw [pcAt_setAct]
  by_cases hab : a = b
  · subst hab; simp [ha]
  · simp [hab, hX]

theorem HolderInv.acquire {s X : State} {a q0 : Nat} {act v' : Act} {w w' : JobQ} (h : HolderInv s)
    (ha : s.acts[a]? = some act) (hq : s.qs[q0]? = some w) (hfree : w.state.held = false)
    (hold : ∀ q, act.pc.holds q = false) (hnew : ∀ q, v'.pc.holds q = (q0 == q))
    (hX : ∀ b q, (X.pcAt b).holds q = (s.pcAt b).holds q) (hXlen : a < X.acts.length)
    (hXho : X.holder = s.holder.set q0 (some a)) (hXqs : X.qs = s.qs.set q0 w') (hheld : w'.state.held = true) :
    HolderInv (X.setAct a v') := by
  have hq0 : q0 < s.qs.length := lt_of_getElem?_some hq
  refine HolderInv.update (pc' := v'.pc) h q0 (some a) (hpc_setAct hX hXlen) (by simpa using hXho) (by simp [hXqs]) hq0
    (Or.inr rfl) ?_ (Or.inl (h.free hq hfree)) ?_ ?_
  · intro q
    rw [hnew, pcAt_of ha, hold]
    by_cases hqq : q = q0
    · subst hqq; simp
    · simp [hqq, Ne.symm hqq]
  · intro _ u hu
    simp only [qs_setAct, hXqs, List.getElem?_set, ↓reduceIte, hq0] at hu
    cases hu; exact hheld
  · intro q u hne hu
    simp only [qs_setAct, hXqs, List.getElem?_set, Ne.symm hne, ↓reduceIte] at hu
    exact ⟨u, hu, id⟩

/-- the state `w'` the queue is left in is arbitrary: the invariant constrains only a queue that has a holder -/
theorem HolderInv.release {s X : State} {a q0 : Nat} {act v' : Act} {w' : JobQ} (h : HolderInv s)
    (ha : s.acts[a]? = some act) (hold : ∀ q, act.pc.holds q = (q0 == q)) (hnew : ∀ q, v'.pc.holds q = false)
    (hX : ∀ b q, (X.pcAt b).holds q = (s.pcAt b).holds q) (hXlen : a < X.acts.length)
    (hXho : X.holder = s.holder.set q0 none) (hXqs : X.qs = s.qs.set q0 w') :
    HolderInv (X.setAct a v') := by
  obtain ⟨hmine, w, hw⟩ := h.mine (q := q0) ha (by rw [hold]; simp)
  have hq0 : q0 < s.qs.length := lt_of_getElem?_some hw
  refine HolderInv.update (pc' := v'.pc) h q0 none (hpc_setAct hX hXlen) (by simpa using hXho) (by simp [hXqs]) hq0
    (Or.inl rfl) ?_ (Or.inr hmine) ?_ ?_
  · intro q
    rw [hnew, pcAt_of ha, hold]
    by_cases hqq : q = q0
    · subst hqq; simp
    · simp [hqq, Ne.symm hqq]
  · intro hc; cases hc
  · intro q u hne hu
    simp only [qs_setAct, hXqs, List.getElem?_set, Ne.symm hne, ↓reduceIte] at hu
    exact ⟨u, hu, id⟩

end Desync
