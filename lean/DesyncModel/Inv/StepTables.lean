/-
What a step does to the tables whose entries are named by ids (the jobs, the result slots of the `SchedulerFuture`s, the
sync-futures, the `DrainWaker` latches): it leaves the table alone, rewrites one entry or (jobs and latches only) adds one at the
end.  The invariants about wakers, results, slots and queue membership read their step cases off these lemmas.  `JobMono`,
`FutsMono`, `SfsMono` follow at once: an id handed out by `future_desync`, `after`, `future_sync` or `suspend` means the same
object for the rest of the execution.
-/
import DesyncModel.Inv.StepFacts

namespace Desync
open Gen

theorem State.jobs_setJobPh_cases (s : State) (j : Nat) (ph : Phase) :
    (s.setJobPh j ph).jobs = s.jobs ∨ ∃ b, s.jobs[j]? = some b ∧ (s.setJobPh j ph).jobs = s.jobs.set j { b with ph := ph } := by
  unfold State.setJobPh
  split
  · next b hb => exact .inr ⟨b, hb, rfl⟩
  · exact .inl rfl

theorem State.jobs_dequeue_cases (s : State) (q a : Nat) :
    (s.dequeue q a).1.jobs = s.jobs ∨ ∃ j b, s.jobs[j]? = some b ∧ (s.dequeue q a).1.jobs = s.jobs.set j { b with ph := .held a } := by
  unfold State.dequeue
  split
  · split
    · split
      · next j _ _ =>
        rcases State.jobs_setJobPh_cases (s.setQ q _) j (.held a) with e | ⟨b, hb, e⟩
        · exact .inl e
        · exact .inr ⟨j, b, hb, e⟩
      · exact .inl rfl
    · exact .inl rfl
  · exact .inl rfl

/-- A rewritten job keeps its queue and its kind and loses neither `begun` nor `ended` (`JobMono` reads these).  Its registered waker
goes only in the send that consumes the registration (and goes on to fire the waker it took out) and comes only from the poll of the
job; a new job is the one `schedule_job_desync` was called with or one of `sync`'s own. -/
theorem Step.jobs_cases {s s' : State} {a : Nat} {act : Act} (hst : Step s a act s') :
    s'.jobs = s.jobs ∨
    (∃ j b v, s.jobs[j]? = some b ∧ s'.jobs = s.jobs.set j v ∧ v.q = b.q ∧ v.kind = b.kind ∧
      (b.begun = true → v.begun = true) ∧ (b.ended = true → v.ended = true) ∧
      (v.reg = b.reg ∨ (v.reg = none ∧ ∀ w, b.reg = some w → ∃ X k, s' = State.goto X a (.waking [w] k)) ∨
        ∃ c k, act.pc = .jobAwait j c k ∧ v.reg = some (ctxWaker act.thread c))) ∨
    (∃ n, s'.jobs = s.jobs ++ [n] ∧ n.reg = none ∧
      (act.pc = .dsPush n.q n.kind ∨ ∃ b, n.kind = .immediate a b ∨ n.kind = .erasedDrain a b ∨ n.kind = .erasedBg a b)) := by
  cases hst
  -- The equation comes first and as a tactic block so that it, and not a `rfl` after it, says what the updated entry is.
  case siIdle | rjPendingPanic | rjParkCheckPanic | jobStartPlain | jobStartDrain | jobStartBg | jobStartFut | jobStartSlotWake
      | jobStartSlot | jobStartSusp | jobAwaitAfter | jobBodyDoneDrain | jobBodyDoneAfter | jobBodyDone | jobEnd | jobSignalWake
      | jobSignal | jobDropBg | jobDrop =>
    exact .inr (.inl ⟨_, _, _, ‹s.jobs[_]? = some _›, by simp; rfl, by exact ⟨rfl, rfl, by simp, by simp, .inl rfl⟩⟩)
  case openSendJobWake hr | resumeSendWake hr =>
    exact .inr (.inl ⟨_, _, _, ‹s.jobs[_]? = some _›, by simp; rfl, by
      exact ⟨rfl, rfl, id, id, .inr (.inl ⟨rfl, fun w hw => by cases hr.symm.trans hw; exact ⟨_, _, rfl⟩⟩)⟩⟩)
  case openSendJob hr | resumeSend hr =>
    exact .inr (.inl ⟨_, _, _, ‹s.jobs[_]? = some _›, by simp; rfl, by
      exact ⟨rfl, rfl, id, id, .inr (.inl ⟨rfl, fun w hw => nomatch hr.symm.trans hw⟩)⟩⟩)
  case jobAwaitPending hpc hjb _ _ =>
    exact .inr (.inl ⟨_, _, _, hjb, by simp; rfl, by exact ⟨rfl, rfl, id, id, .inr (.inr ⟨_, _, hpc, rfl⟩)⟩⟩)
  case dsPushSchedule hpc _ _ | dsPushNone hpc _ _ | dsPushPanic hpc _ _ =>
    exact .inr (.inr ⟨_, by simp [State.newJob]; rfl, by exact ⟨rfl, .inl hpc⟩⟩)
  case syImmediate | tsImmediate => exact .inr (.inr ⟨_, by simp; rfl, by exact ⟨rfl, .inr ⟨_, .inl rfl⟩⟩⟩)
  case sdPush => exact .inr (.inr ⟨_, by simp [State.newJob]; rfl, by exact ⟨rfl, .inr ⟨_, .inr (.inl rfl)⟩⟩⟩)
  case sbPushIdle | sbPush => exact .inr (.inr ⟨_, by simp [State.newJob]; rfl, by exact ⟨rfl, .inr ⟨_, .inr (.inr rfl)⟩⟩⟩)
  case rjDequeue q _ _ _ _ | rjDequeueNone q _ _ _ | pdDequeue _ q _ _ _ | pdDequeueNone _ q _ _ | dqDequeue _ q _ _ _ | dqDequeueNone _ q _ _ =>
    rcases s.jobs_dequeue_cases q a with e | ⟨j, b, hb, e⟩
    · exact .inl (by simpa using e)
    · exact .inr (.inl ⟨j, b, _, hb, by simpa using e, by exact ⟨rfl, rfl, id, id, .inl rfl⟩⟩)
  case pdRequeue _ q j _ | dqRequeue _ j _ q _ =>
    rcases (s.pushFront q j).jobs_setJobPh_cases j .queued with e | ⟨b, hb, e⟩
    · exact .inl (by simpa using e)
    · exact .inr (.inl ⟨j, b, _, by simpa using hb, by simpa using e, by exact ⟨rfl, rfl, id, id, .inl rfl⟩⟩)
  all_goals exact .inl (by simp)

/-- The waker of a result slot is taken out by the signal that fires it and put in by the task that polls the future.  A slot
comes to hold `Ok` only in the signal step of a job that has it for its result (which writes `ended` as well) or of the suspend
job that has it for its `finished_suspending` slot. -/
theorem Step.futs_cases {s s' : State} {a : Nat} {act : Act} (hst : Step s a act s') :
    s'.futs = s.futs ∨ ∃ f fu v, s.futs[f]? = some fu ∧ s'.futs = s.futs.set f v ∧ v.q = fu.q ∧
      (v.waker = fu.waker ∨ v.waker = none ∨ v.waker = some (.task act.thread)) ∧
      (v.res = .ok → fu.res = .ok ∨
        (∃ (j : Nat) (jb : Job), s'.jobs[j]? = some jb ∧ jb.kind.res = some f ∧ jb.ended = true) ∨
        ∃ j c k jb op g r, act.pc = .suspSignal j c k ∧ s.jobs[j]? = some jb ∧ jb.kind = .susp op g f r) := by
  cases hst
  case beginTake hf =>
    exact .inr ⟨_, _, _, hf, by simp; rfl, by split <;> rfl, .inl (by split <;> rfl), fun hx => .inl (by split at hx; cases hx; exact hx)⟩
  case pfPollReady | dqCheckReady | dqCheck2Ready | fsTakeReady =>
    exact .inr ⟨_, _, _, ‹s.futs[_]? = some _›, by simp; rfl, by exact ⟨rfl, .inl rfl, fun hx => nomatch hx⟩⟩
  case suspSignalWake hpc hjb hk hfu _ | suspSignal hpc hjb hk hfu _ =>
    exact .inr ⟨_, _, _, hfu, by simp; rfl, by exact ⟨rfl, .inr (.inl rfl), fun _ => .inr (.inr ⟨_, _, _, _, _, _, _, hpc, hjb, hk⟩)⟩⟩
  case jobSignalWake j _ _ jb _ _ _ _ hjb hr hfu _ | jobSignal j _ _ jb _ _ _ hjb hr hfu _ =>
    exact .inr ⟨_, _, _, hfu, by simp; rfl, by exact ⟨rfl, .inr (.inl rfl), fun _ => .inr (.inl
      ⟨j, { jb with ended := true, sig := true }, by simp [lt_of_getElem?_some hjb], hr, rfl⟩)⟩⟩
  case jobSigDropCancelWake | jobSigDropCancel =>
    exact .inr ⟨_, _, _, ‹s.futs[_]? = some _›, by simp; rfl, by exact ⟨rfl, .inr (.inl rfl), fun hx => nomatch hx⟩⟩
  case pfPollRel | dqStore | dqStore2 =>
    exact .inr ⟨_, _, _, ‹s.futs[_]? = some _›, by simp; rfl, by exact ⟨rfl, .inr (.inr rfl), .inl⟩⟩
  all_goals exact .inl (by simp)

/-- Each of the three waker slots of a sync-future is filled only by the one who waits on that channel: the polling task on
`queue_ready` (`readyWaker`) and on the user future's event (`userReg`), the context that polls the slot job on `task_finished`
(`doneWaker`). -/
theorem Step.sfs_cases {s s' : State} {a : Nat} {act : Act} (hst : Step s a act s') :
    s'.sfs = s.sfs ∨ ∃ u sf v, s.sfs[u]? = some sf ∧ s'.sfs = s.sfs.set u v ∧
      (v.f = sf.f ∧ v.q = sf.q ∧ v.op = sf.op ∧ v.gate = sf.gate) ∧
      (v.readyWaker = sf.readyWaker ∨ v.readyWaker = none ∨ v.readyWaker = some (.task act.thread)) ∧
      (v.userReg = sf.userReg ∨ v.userReg = none ∨ v.userReg = some (.task act.thread)) ∧
      (v.doneWaker = sf.doneWaker ∨ v.doneWaker = none ∨
        ∃ j c k jb r, act.pc = .jobAwait j c k ∧ s.jobs[j]? = some jb ∧ jb.kind = .slot u r ∧
          v.doneWaker = some (ctxWaker act.thread c)) ∧
      (sf.readySent = true → v.readySent = true) ∧
      (v.readySent = true → sf.readySent = true ∨
        ∃ (j : Nat) (jb : Job) (r : Nat), s'.jobs[j]? = some jb ∧ jb.kind = .slot u r ∧ jb.begun = true) ∧
      (v.userBegun = true → sf.userBegun = true ∨ v.readySent = true) := by
  cases hst
  case pollReadySfSched | sfUserReady =>
    exact .inr ⟨_, _, _, ‹s.sfs[_]? = some _›, by simp; rfl, by exact ⟨⟨rfl, rfl, rfl, rfl⟩, .inl rfl, .inl rfl, .inl rfl, id, .inl, .inl⟩⟩
  case sfRecvReady hsf hr =>
    exact .inr ⟨_, _, _, hsf, by simp; rfl, by exact ⟨⟨rfl, rfl, rfl, rfl⟩, .inl rfl, .inl rfl, .inl rfl, id, .inl, fun _ => .inr hr⟩⟩
  case jobStartSlotWake j _ _ jb _ _ _ _ _ hjb hk _ hsf _ | jobStartSlot j _ _ jb _ _ _ _ hjb hk _ hsf _ =>
    exact .inr ⟨_, _, _, hsf, by simp; rfl, by exact ⟨⟨rfl, rfl, rfl, rfl⟩, .inr (.inl rfl), .inl rfl, .inl rfl, fun _ => rfl,
      fun _ => .inr ⟨j, { jb with begun := true }, _, by simp [lt_of_getElem?_some hjb], hk, rfl⟩, .inl⟩⟩
  case sfRecv =>
    exact .inr ⟨_, _, _, ‹s.sfs[_]? = some _›, by simp; rfl, by exact ⟨⟨rfl, rfl, rfl, rfl⟩, .inr (.inr rfl), .inl rfl, .inl rfl, id, .inl, .inl⟩⟩
  case openSendSfWake | openSendSf =>
    exact .inr ⟨_, _, _, ‹s.sfs[_]? = some _›, by simp; rfl, by exact ⟨⟨rfl, rfl, rfl, rfl⟩, .inl rfl, .inr (.inl rfl), .inl rfl, id, .inl, .inl⟩⟩
  case sfUser =>
    exact .inr ⟨_, _, _, ‹s.sfs[_]? = some _›, by simp; rfl, by exact ⟨⟨rfl, rfl, rfl, rfl⟩, .inl rfl, .inr (.inr rfl), .inl rfl, id, .inl, .inl⟩⟩
  case sfDropCancel | sfDrop =>
    exact .inr ⟨_, _, _, ‹s.sfs[_]? = some _›, by simp; rfl, by exact ⟨⟨rfl, rfl, rfl, rfl⟩, .inr (.inl rfl), .inr (.inl rfl), .inl rfl, id, .inl, .inl⟩⟩
  case sfFinishWake | sfFinish | sfDropDoneWake | sfDropDone =>
    exact .inr ⟨_, _, _, ‹s.sfs[_]? = some _›, by simp; rfl, by exact ⟨⟨rfl, rfl, rfl, rfl⟩, .inl rfl, .inl rfl, .inr (.inl rfl), id, .inl, .inl⟩⟩
  case jobAwaitPendingSlot hpc hjb _ hk hsf =>
    exact .inr ⟨_, _, _, hsf, by simp; rfl, by exact ⟨⟨rfl, rfl, rfl, rfl⟩, .inl rfl, .inl rfl, .inr (.inr ⟨_, _, _, _, _, hpc, hjb, hk, rfl⟩), id, .inl, .inl⟩⟩
  all_goals exact .inl (by simp)

/-- The fresh latch is for the job `drain_queue` is about to run; the other two cases are `wake` and `wake_with` on one latch. -/
theorem Step.latches_cases {s s' : State} {a : Nat} {act : Act} (hst : Step s a act s') :
    s'.latches = s.latches ∨ s'.latches = s.latches ++ [(.notWoken, none)] ∨
    ∃ l st w, s.latches[l]? = some (st, w) ∧
      (s'.latches = s.latches.set l ((latchWake st).1, if (latchWake st).2 then none else w) ∨
       ∃ f w' k, act.pc = .dqWakeWith f l w' k ∧
        s'.latches = s.latches.set l ((latchWakeWith st).1, if (latchWakeWith st).2 then none else some w')) := by
  cases hst
  case lwCsWake hl hw | lwCsEmpty hl hw | lwCsKeep hl hw => exact .inr (.inr ⟨_, _, _, hl, .inl (by simp [hw])⟩)
  case dqWakeWithNow hpc hl hw | dqWakeWith hpc hl hw => exact .inr (.inr ⟨_, _, _, hl, .inr ⟨_, _, _, hpc, by simp [hw]⟩⟩)
  case dqDequeue => exact .inr (.inl (by simp))
  all_goals exact .inl (by simp)

theorem EnvStep.futs_sfs {s s' : State} {l : Label} (he : EnvStep s l s') :
    ∃ lf ls, s'.futs = s.futs ++ lf ∧ s'.sfs = s.sfs ++ ls ∧ (∀ x ∈ lf, x.res = .none ∧ x.waker = none) ∧
      (∀ x ∈ ls, x.readyWaker = none ∧ x.userReg = none ∧ x.doneWaker = none ∧ x.readySent = false ∧ x.userBegun = false) := by
  cases he
  case invoke hst =>
    rw [addAct_fst, futs_setChild, sfs_setChild]
    cases hst
    case fdesync q _ | after q _ => exact ⟨[Fut.fresh q], [], by simp, by simp, by simp [Fut.fresh], by simp⟩
    case fsync q _ => exact ⟨[Fut.fresh q], [_], by simp, by simp; rfl, by simp [Fut.fresh], by simp⟩
    case suspend q => exact ⟨[Fut.fresh q, Fut.fresh q], [], by simp, by simp, by simp [Fut.fresh], by simp⟩
    all_goals exact ⟨[], [], by simp, by simp, by simp, by simp⟩
  all_goals exact ⟨[], [], by simp, by simp, by simp, by simp⟩

def JobMono (s X : State) : Prop :=
  ∀ (j : Nat) (jb : Job), s.jobs[j]? = some jb →
    ∃ jb', X.jobs[j]? = some jb' ∧ jb'.kind = jb.kind ∧ jb'.q = jb.q ∧ (jb.begun = true → jb'.begun = true) ∧ (jb.ended = true → jb'.ended = true)

theorem JobMono.same {s X : State} (h : X.jobs = s.jobs) : JobMono s X := List.Keeps.refl (fun _ => ⟨rfl, rfl, id, id⟩) h
theorem JobMono.refl (s : State) : JobMono s s := .same rfl

theorem JobMono.set {s X : State} {j : Nat} {b v : Job} (hb : s.jobs[j]? = some b) (hX : X.jobs = s.jobs.set j v) (hk : v.kind = b.kind)
    (hq : v.q = b.q) (hbg : b.begun = true → v.begun = true) (he : b.ended = true → v.ended = true) : JobMono s X :=
  List.Keeps.set (fun _ => ⟨rfl, rfl, id, id⟩) hb ⟨hk, hq, hbg, he⟩ hX

theorem JobMono.setJobPh (s : State) (j : Nat) (ph : Phase) : JobMono s (s.setJobPh j ph) := by
  rcases s.jobs_setJobPh_cases j ph with e | ⟨b, hb, e⟩
  · exact .same e
  · exact .set hb e rfl rfl id id

theorem JobMono.append {s X : State} {l : List Job} (hX : X.jobs = s.jobs ++ l) : JobMono s X :=
  List.Keeps.append (fun _ => ⟨rfl, rfl, id, id⟩) hX

theorem JobMono.dequeue (s : State) (q a : Nat) : JobMono s (s.dequeue q a).1 := by
  rcases s.jobs_dequeue_cases q a with e | ⟨j, b, hb, e⟩
  · exact .same e
  · exact .set hb e rfl rfl id id

theorem JobMono.setAct_of {s Y : State} {a : Nat} {v : Act} (h : JobMono s Y) : JobMono s (Y.setAct a v) := h
theorem JobMono.setQ_of {s Y : State} {q : Nat} {v : JobQ} (h : JobMono s Y) : JobMono s (Y.setQ q v) := h

theorem Step.jobMono {s s' : State} {a : Nat} {act : Act} (h : Step s a act s') : JobMono s s' := by
  rcases h.jobs_cases with e | ⟨j, b, v, hb, e, hq, hk, hbg, he, -⟩ | ⟨n, e, -⟩
  · exact .same e
  · exact .set hb e hk hq hbg he
  · exact .append e

theorem jobMono_stepAct {s s' : State} {a : Nat} {o : Obs} (hs : stepAct s a = some (s', o)) : JobMono s s' := by
  obtain ⟨act, -, -, hst⟩ := Step.of_stepAct hs
  exact hst.jobMono

def FutsMono (L L' : List Fut) : Prop := ∀ (f : Nat) (fu : Fut), L[f]? = some fu → ∃ fu', L'[f]? = some fu' ∧ fu'.q = fu.q
def SfsMono (L L' : List SyncFut) : Prop :=
  ∀ (u : Nat) (sf : SyncFut), L[u]? = some sf → ∃ sf', L'[u]? = some sf' ∧ sf'.f = sf.f ∧ sf'.q = sf.q ∧ sf'.op = sf.op ∧ sf'.gate = sf.gate

theorem FutsMono.refl (L : List Fut) : FutsMono L L := List.Keeps.refl (fun _ => rfl) rfl
theorem FutsMono.set {L : List Fut} {f0 : Nat} {fu v : Fut} (hf : L[f0]? = some fu) (hq : v.q = fu.q) : FutsMono L (L.set f0 v) :=
  List.Keeps.set (fun _ => rfl) hf hq rfl
theorem FutsMono.append (L l : List Fut) : FutsMono L (L ++ l) := List.Keeps.append (fun _ => rfl) rfl
theorem FutsMono.trans {A B C : List Fut} (h1 : FutsMono A B) (h2 : FutsMono B C) : FutsMono A C :=
  List.Keeps.trans (fun _ _ _ e1 e2 => e2.trans e1) h1 h2

theorem SfsMono.refl (L : List SyncFut) : SfsMono L L := List.Keeps.refl (fun _ => ⟨rfl, rfl, rfl, rfl⟩) rfl
theorem SfsMono.set {L : List SyncFut} {u0 : Nat} {sf v : SyncFut} (hf : L[u0]? = some sf)
    (hv : v.f = sf.f ∧ v.q = sf.q ∧ v.op = sf.op ∧ v.gate = sf.gate) : SfsMono L (L.set u0 v) :=
  List.Keeps.set (fun _ => ⟨rfl, rfl, rfl, rfl⟩) hf hv rfl
theorem SfsMono.append (L l : List SyncFut) : SfsMono L (L ++ l) := List.Keeps.append (fun _ => ⟨rfl, rfl, rfl, rfl⟩) rfl

theorem Step.futsSfsMono {s s' : State} {a : Nat} {act : Act} (hst : Step s a act s') :
    FutsMono s.futs s'.futs ∧ SfsMono s.sfs s'.sfs := by
  refine ⟨?_, ?_⟩
  · rcases hst.futs_cases with e | ⟨f, fu, v, hf, e, hq, -⟩ <;> rw [e]
    · exact .refl _
    · exact .set hf hq
  · rcases hst.sfs_cases with e | ⟨u, sf, v, hu, e, hv, -⟩ <;> rw [e]
    · exact .refl _
    · exact .set hu hv

theorem EnvStep.futsSfsMono {s s' : State} {l : Label} (he : EnvStep s l s') : FutsMono s.futs s'.futs ∧ SfsMono s.sfs s'.sfs := by
  obtain ⟨lf, ls, ef, es, -, -⟩ := he.futs_sfs
  rw [ef, es]
  exact ⟨.append _ _, .append _ _⟩

theorem futsSfsMono_next {s s' : State} {l : Label} (hstep : next s l = some s') : FutsMono s.futs s'.futs ∧ SfsMono s.sfs s'.sfs := by
  rcases next_cases hstep with ⟨a, act, -, -, -, hst⟩ | he
  · exact hst.futsSfsMono
  · exact he.futsSfsMono

end Desync
