import DesyncModel.Inv.QEffect

namespace Desync
open Gen

theorem Step.holderInv {s s' : State} {a : Nat} {act : Act} (h : HolderInv s) (ha : s.acts[a]? = some act) (hst : Step s a act s') :
    HolderInv s' :=
  -- a fresh pool thread (`ptRecv`) claims no run right, like an index at which there is no activity (`dead`)
  h.of_qeffect (fun _ hb q => hst.class_ne (C := (·.holds q)) (fun _ => rfl) hb) (hst.qeffect h ha)

theorem holds_envPcRel (q : Nat) : EnvPcRel fun pc pc' => pc'.holds q = pc.holds q :=
  ⟨fun _ => rfl, fun _ _ => rfl, fun _ _ _ => rfl, fun _ => rfl, fun _ => rfl, rfl, fun h => by cases h <;> rfl⟩

theorem EnvStep.holderInv {s s' : State} {l : Label} (h : HolderInv s) (he : EnvStep s l s') : HolderInv s' :=
  h.keep (fun b q => he.pcAt_rel (holds_envPcRel q) b) he.sameCore.holder (congrArg _ he.sameCore.qs)
    fun _ v' hv' => ⟨v', he.sameCore.qs ▸ hv', id⟩

/-- I_runRight, for any number of objects, threads and calls and any pool size, under any interleaving of internal steps with the
environment's calls, closure ends, returns and spurious wake-ups. -/
theorem holderInv_reachable {s : State} (hr : Reachable s) : HolderInv s :=
  hr.invariant holderInv_initP (fun _ h ha _ hst => hst.holderInv h ha) (fun _ h he => he.holderInv h)

theorem run_right_exclusive {s : State} (hr : Reachable s) (a b q : Nat)
    (ha : (s.pcAt a).holds q = true) (hb : (s.pcAt b).holds q = true) : a = b :=
  (holderInv_reachable hr).exclusive ha hb

end Desync
