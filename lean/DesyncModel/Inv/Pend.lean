/-
I_pending: a queue in the `Pending` state is on the schedule, or in the hands of a call that is about to put it there
(`schedule_job_desync` between its two critical sections; `reschedule_queue` while it notifies the waiting sync callers).
Together with I_watch (a queue on the schedule always has a watcher) this is the "no further API call is needed to kick the
queue" half of C03 at the level of the scheduler's bookkeeping.
-/
import DesyncModel.Inv.QEffect

namespace Desync
open Gen

/-- the activity is about to push queue `q` on the schedule -/
def Pc.pushes : Pc → Nat → Bool
  | .dsSched q', q => q' == q
  | .rqPush q' _, q => q' == q
  | .rqNotifyAcq q' _ r _, q | .rqNotify q' _ r _, q | .rqNotifyRel q' _ r _, q => r && q' == q
  | _, _ => false

structure PendInv (s : State) : Prop where
  pend : ∀ q, s.qSt q = some .pending → q ∈ s.schedule ∨ ∃ a, (s.pcAt a).pushes q = true

/-- no activity but `a` loses its intention to push -/
def PushesKept (s X : State) (a : Nat) : Prop := ∀ b, b ≠ a → ∀ q, (s.pcAt b).pushes q = true → (X.pcAt b).pushes q = true

theorem PendInv.step {s X : State} {a : Nat} (h : PendInv s)
    (hoth : PushesKept s X a)
    (hsch : ∀ q, q ∈ s.schedule → q ∈ X.schedule ∨ X.qSt q ≠ some .pending)
    (hq : ∀ q, X.qSt q = some .pending → s.qSt q = some .pending ∨ (X.pcAt a).pushes q = true)
    (hmine : ∀ q, (s.pcAt a).pushes q = true → (X.pcAt a).pushes q = true ∨ q ∈ X.schedule) : PendInv X := by
  refine ⟨?_⟩
  intro q hp
  rcases hq q hp with h1 | h1
  · rcases h.pend q h1 with h2 | ⟨b, h2⟩
    · rcases hsch q h2 with h3 | h3
      · exact Or.inl h3
      · exact absurd hp h3
    · by_cases hba : b = a
      · subst hba
        rcases hmine q h2 with h3 | h3
        · exact Or.inr ⟨b, h3⟩
        · exact Or.inl h3
      · exact Or.inr ⟨b, hoth b hba q h2⟩
  · exact Or.inr ⟨a, h1⟩

theorem PendInv.of_view {Y X : State} (h : PendInv Y) (hq : ∀ q, X.qSt q = Y.qSt q) (hs : X.schedule = Y.schedule) (hp : ∀ b, X.pcAt b = Y.pcAt b) : PendInv X :=
  ⟨fun q hq' => hs ▸ (h.pend q (hq q ▸ hq')).imp_right fun ⟨b, h1⟩ => ⟨b, hp b ▸ h1⟩⟩

/-! Only `schedule_job_desync` and `reschedule_queue` make a queue `Pending`, and both then schedule it; a queue leaves the schedule
only in the critical section that also takes it out of `Pending`. -/

theorem desyncPush_pend {st : QState} (h : (desyncPush st).1 = .pending) : st = .pending ∨ (desyncPush st).2 = .schedule := by
  cases st <;> simp_all [desyncPush]
theorem reschedule_pend {st : QState} {e : Bool} (h : (reschedule st e).1 = .pending) : st = .pending ∨ (reschedule st e).2 = true := by
  cases st <;> cases e <;> simp_all [reschedule]
theorem nextToRun_pend {st : QState} (h : (nextToRun st).1 = .pending) : False := by
  cases st <;> simp_all [nextToRun]
theorem QState.wakes_pending {st st' : QState} (h : st.wakes st' = true) (hp : st' = .pending) : st = .pending := by
  cases st <;> simp_all [QState.wakes]
theorem QState.owns_pending {st st' : QState} (h : st.owns st' = true) (hp : st' = .pending) : st = .pending := by
  cases st <;> simp_all [QState.owns]
theorem claim_pend {st : QState} (h : (claim st).1 = .pending) : st = .pending :=
  entry_eq (claim_entry st) nofun h
theorem syncNoPanicDecide_pend {st : QState} {e : Bool} (h : (syncNoPanicDecide st e).1 = .pending) : st = .pending :=
  entry_eq (syncNoPanicDecide_entry st e) nofun h

section
variable {s X : State} {a : Nat} {pc : Pc} (h : PendInv s) (hoth : PushesKept s X a) (hsrc : s.pcAt a = pc) (hmine : pc.pushes = fun _ => false)
include h hoth hsrc hmine

theorem PendInv.write {q0 : Nat} {v v' : JobQ} (hv : s.qs[q0]? = some v) (hqs : X.qs = s.qs.set q0 v')
    (hsch : ∀ q, q ∈ s.schedule → q ≠ q0 → q ∈ X.schedule)
    (htab : v'.state = .pending → (v.state = .pending ∧ (q0 ∈ s.schedule → q0 ∈ X.schedule)) ∨ (X.pcAt a).pushes q0 = true) : PendInv X := by
  -- who accounted for `q` before accounts for it now, provided `q` stays on the schedule if it was there
  have old : ∀ q, s.qSt q = some .pending → (q ∈ s.schedule → q ∈ X.schedule) → q ∈ X.schedule ∨ ∃ b, (X.pcAt b).pushes q = true :=
    fun q hp hs => (h.pend q hp).imp hs fun ⟨b, hb⟩ =>
      ⟨b, hoth b (fun e => by rw [e, hsrc, hmine] at hb; cases hb) q hb⟩
  refine ⟨fun q hp => ?_⟩
  rw [qSt_of_set hv hqs] at hp
  split at hp
  · next e =>
    subst e
    rcases htab (Option.some.inj hp) with ⟨h1, h2⟩ | h1
    · exact old q (by rw [qSt_of hv, h1]) h2
    · exact .inr ⟨a, h1⟩
  · next e => exact old q hp (fun hm => hsch q hm e)

theorem PendInv.frame (hq : ∀ q, X.qSt q = s.qSt q) (hsch : X.schedule = s.schedule) : PendInv X :=
  h.step hoth (fun _ hm => .inl (hsch ▸ hm)) (fun q hp => .inl (hq q ▸ hp)) (fun q hp => by rw [hsrc, hmine] at hp; cases hp)

end

/-! Most rules' post-state is `Y.goto a pc'`, and `Y` has the schedule of `s` and its state words, or all but one, by computation (`rfl`). -/

section
variable {s Y : State} {a : Nat} {pc pc' : Pc} (h : PendInv s) (hoth : PushesKept s (Y.goto a pc') a) (hsrc : s.pcAt a = pc)
  (hmine : pc.pushes = fun _ => false) (hsch : Y.schedule = s.schedule)
include h hoth hsrc hmine hsch

theorem PendInv.goto (hq : ∀ q, Y.qSt q = s.qSt q) : PendInv (Y.goto a pc') :=
  h.frame hoth hsrc hmine (fun q => (qSt_goto _ _ _ q).trans (hq q)) ((schedule_goto _ _ _).trans hsch)

theorem PendInv.table {q0 : Nat} {v v' : JobQ} (hv : s.qs[q0]? = some v) (hqs : Y.qs = s.qs.set q0 v')
    (htab : v'.state = .pending → v.state = .pending) : PendInv (Y.goto a pc') :=
  have e := (schedule_goto Y a pc').trans hsch
  h.write hoth hsrc hmine hv ((qs_goto _ _ _).trans hqs) (fun _ hm _ => e ▸ hm) (fun hp => .inl ⟨htab hp, fun hm => e ▸ hm⟩)

end

theorem Step.pendInv {s s' : State} {a : Nat} {act : Act} (h : PendInv s) (ha : s.acts[a]? = some act) (hst : Step s a act s') :
    PendInv s' := by
  have hlt := hst.lt_acts ha
  have hsrc : ∀ {pc}, act.pc = pc → s.pcAt a = pc := (pcAt_of ha).trans
  have hoth : PushesKept s s' a :=
    fun b hb q => hst.pcAt_ne_of hb (P := fun pc => pc.pushes q = true) Bool.false_ne_true
  cases hst
  -- the mover puts its queue on the schedule
  case rqPush hpc _ | dsSched hpc _ =>
    refine h.step hoth (fun q hm => .inl ?_) (fun q hp => .inl (by rw [qSt_goto] at hp; exact hp)) (fun q hp => .inr ?_)
    · rw [schedule_goto]; exact List.mem_append_left _ hm
    · rw [hsrc hpc] at hp; cases eq_of_beq hp
      rw [schedule_goto]; exact List.mem_append_right _ (List.mem_singleton_self _)
  -- a pool thread pops the head of the schedule: whatever word it found, it does not leave `Pending` behind
  case ptPopTake hpc he hv _ | ptPopSkip hpc he hv _ =>
    refine h.write hoth (hsrc hpc) rfl hv (qs_goto _ _ _) (fun q hm e => ?_) (fun hp => (nextToRun_pend hp).elim)
    rw [he] at hm; simpa [e] using hm
  -- a waiting sync caller claims the queue: it comes off the schedule and is marked running
  case sbClaimed hpc _ hv hr =>
    exact h.write hoth (hsrc hpc) rfl hv (qs_goto _ _ _) (fun q hm hq => by simp [hm, hq])
      (fun hp => nomatch ((if_pos hr).mp (claim_entry _)).2.symm.trans hp)
  -- the two calls that make a queue `Pending`: the mover goes on to push it
  case dsPushSchedule hpc hv _ =>
    exact h.write hoth (hsrc hpc) rfl hv (qs_goto _ _ _) (fun _ hm _ => (schedule_goto _ _ _).symm ▸ hm)
      (fun _ => .inr (by rw [pcAt_goto_of_lt hlt]; exact beq_self_eq_true _))
  case dsPushNone hpc hv hr | dsPushPanic hpc hv hr =>
    exact h.table hoth (hsrc hpc) rfl rfl hv rfl (fun hp => (desyncPush_pend hp).resolve_right (by rw [hr]; decide))
  case rqCs hpc hv =>
    refine h.write hoth (hsrc hpc) rfl hv (qs_goto _ _ _) (fun _ hm _ => (schedule_goto _ _ _).symm ▸ hm) (fun hp => ?_)
    exact (reschedule_pend hp).imp (fun e => ⟨e, fun hm => (schedule_goto _ _ _).symm ▸ hm⟩) (fun e => by rw [pcAt_goto_of_lt hlt]; show (_ && _ == _) = true; simp [e])
  -- every other table leaves `Pending` as it finds it.  Wake-ups and the drop of the designated poller:
  case wqCsResched hpc hv _ | wqCs hpc hv _ =>
    exact h.table hoth (hsrc hpc) rfl rfl hv rfl (QState.wakes_pending (wakeQueue_wakes _))
  case wtCs hpc hv =>
    exact h.table hoth (hsrc hpc) rfl rfl hv rfl (QState.wakes_pending (wakeThread_wakes _))
  case fdDropHandBack hpc _ hv _ _ =>
    exact h.table hoth (hsrc hpc) rfl rfl hv rfl (QState.wakes_pending (futureDropDecide_wakes _ _))
  -- the entry tables
  case syImmediate hpc hv _ | syDrain hpc hv _ | syBackground hpc hv _ | syPanic hpc hv _ _ _ =>
    exact h.table hoth (hsrc hpc) rfl rfl hv rfl (entry_eq (syncDecide_entry _ _) nofun)
  case tsImmediate hpc hv _ | tsPanic hpc hv _ _ =>
    exact h.table hoth (hsrc hpc) rfl rfl hv rfl (entry_eq (trySyncDecide_entry _ _) nofun)
  case tsBusy hpc hv _ =>
    exact h.write hoth (hsrc hpc) rfl hv (qs_setAct _ _ _) (fun _ hm _ => hm) (fun hp => .inl ⟨entry_eq (trySyncDecide_entry _ _) nofun hp, id⟩)
  case sbClaim hpc _ hv _ =>
    exact h.table hoth (hsrc hpc) rfl rfl hv rfl (entry_eq (claim_entry _) nofun)
  case pfPollWait hpc _ _ hv _ | pfPollDrain hpc _ _ hv _ | pfPollPanic hpc _ _ hv _ =>
    exact h.table hoth (hsrc hpc) rfl rfl hv rfl (entry_eq (pollDecide_entry _ _) nofun)
  -- the owner's tables
  case pdPendingLeave hpc hv _ | pdPending hpc hv _ =>
    exact h.table hoth (hsrc hpc) rfl rfl hv rfl (QState.owns_pending (drainPending_owns _))
  case pdExitLeave hpc hv _ | pdExit hpc hv _ =>
    exact h.table hoth (hsrc hpc) rfl rfl hv rfl (QState.owns_pending (drainExit_owns _ _))
  case rjPendingPark hpc hv _ | rjPendingContinue hpc hv _ | rjPendingPanic hpc hv _ _ | rjPendingPanicNone hpc hv _ _ =>
    exact h.table hoth (hsrc hpc) rfl rfl hv rfl (QState.owns_pending (runOnePending_owns _))
  -- the notify loop of `reschedule_queue` keeps its intention to push
  case rqNotifiedPush hpc | rqNotifyAcq hpc _ | rqNotify hpc | rqNotifyRel hpc =>
    refine h.step hoth (fun q hm => .inl (by simpa using hm)) (fun q hp => .inl (by simpa using hp)) (fun q hp => .inl ?_)
    rw [hsrc hpc] at hp; rw [pcAt_goto_of_lt hlt]; exact hp
  -- the owner leaves its queue idle, parked or waiting for its poller, not `Pending`
  case siIdle hpc _ | sdIdle hpc | sbStealIdle hpc | dqSetWfw hpc | dqSetWfp hpc | dqIdle2 hpc | dqIdle hpc =>
    exact h.step hoth (fun q hm => .inl (by simpa using hm)) (fun q hp => .inl (qSt_of_left hp (qSt_congr rfl) nofun))
      (fun q hp => by rw [hsrc hpc] at hp; cases hp)
  -- the record of a queue changes (waiters, job list), its word does not
  case sbReg hpc hv | sbPushIdle hpc hv _ | sbPush hpc hv _ => exact h.goto hoth (hsrc hpc) rfl rfl (qSt_setQ_keep rfl hv rfl)
  case sbPrune hpc hv =>
    exact h.frame hoth (hsrc hpc) rfl (qSt_setQ_keep (qs_goto s a .ret) hv (by rfl)) (schedule_goto _ _ _)
  case rjDequeue hpc _ | rjDequeueNone hpc _ | pdDequeue hpc _ | pdDequeueNone hpc _ | dqDequeue hpc _ | dqDequeueNone hpc _ =>
    exact h.goto hoth (hsrc hpc) rfl (schedule_dequeue s _ a) (qSt_dequeue s _ a)
  -- a job is queued, a `woken` flag (the mover's own or a waiter's) or a gate is written
  case sdPush hpc | pdRequeue hpc | dqRequeue hpc | sbWait hpc | sbWaiting hpc _ _ | jobDropNotify hpc _ _ | jobStartFut hpc _ _ _
      | sfRecvReady hpc _ _ =>
    exact h.goto hoth (hsrc hpc) rfl (by simp [State.newJob]) (fun q => by simp)
  -- the result is stored with the new program counter
  case pfPollReady hpc _ _ | pollReadySfSched hpc _ _ | pollPendingOnce hpc _ _ | sfPollQueue hpc _ _ | sfPollSched hpc _ _
      | sfPollCompleted hpc _ _ | sfBlockedOnce hpc _ | dqCheckReady hpc _ _ | dqCheck2Ready hpc _ _ | fsTakeReady hpc _ _ =>
    exact h.frame hoth (hsrc hpc) rfl (qSt_congr rfl) rfl
  -- all other rules leave the schedule alone, write no state word, and start from a program counter that is not about to push
  -- (`by`: elaborated once `‹_›` has found the rule's program counter; `eq_refl`: `rfl` would first try `Iff.rfl` and `HEq.rfl` in every goal)
  all_goals exact h.goto hoth (hsrc ‹_›) (by eq_refl) rfl (qSt_congr rfl)

theorem pushes_envPcRel (q : Nat) : EnvPcRel fun pc pc' => pc.pushes q = true → pc'.pushes q = true where
  refl _ := id
  body _ _ h := by cases h
  parked _ _ _ h := by cases h
  pfBlocked _ h := by cases h
  sfBlocked _ h := by cases h
  ret h := by cases h
  entry _ h := by cases h

theorem EnvStep.pendInv {s s' : State} {l : Label} (h : PendInv s) (he : EnvStep s l s') : PendInv s' :=
  ⟨fun q hp => he.sameCore.schedule ▸ (h.pend q (qSt_congr he.sameCore.qs q ▸ hp)).imp id fun ⟨b, hb⟩ => ⟨b, he.pcAt_rel (pushes_envPcRel q) b hb⟩⟩

theorem pendInv_initP (ps : List Bool) (ng max : Nat) : PendInv (initStateP ps ng max) :=
  ⟨fun q hs => by rcases qSt_initP hs with h | h <;> cases h⟩

theorem pendInv_reachable {s : State} (hr : Reachable s) : PendInv s :=
  hr.invariant pendInv_initP (fun _ h ha _ hst => hst.pendInv h ha) (fun _ h he => he.pendInv h)

end Desync
