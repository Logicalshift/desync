/-
I_result (C07, C13): while the result slot of a future holds `Ok`, the operation it belongs to has finished — the slot of a
`future_desync` / `after` / `future_sync` / suspend-completion future is written by the signal step of a job that has ended;
the slot of the future returned by `suspend` (finished_suspending) is written by its suspend job, which has begun (so, by
C02, everything scheduled before the suspend request has ended).
-/
import DesyncModel.Inv.StepTables

namespace Desync
open Gen

/-- the suspend jobs whose `finished_suspending` signal the activity is about to send (at most one, at the head; the
continuations are searched too so that a return to a continuation never adds an entry) -/
def Pc.suspSigs : Pc → List Nat
  | .suspSignal j c k => j :: (match c with | .caller _ => k.suspSigs | _ => [])
  | .begin _ k | .body _ k | .unwinding k => k.suspSigs
  | .stReap k | .stScanLock k | .stScan _ k | .stScanHeld _ k | .stScanRel _ _ k
  | .stScanUnlock _ k | .stReadMax k | .stSpawn _ k | .stSpawnRel k => k.suspSigs
  | .rqCs _ k | .rqNotifyAcq _ _ _ k | .rqNotify _ _ _ k | .rqNotifyRel _ _ _ k | .rqPush _ k => k.suspSigs
  | .resumeSend _ k | .waking _ k | .openSend _ k | .wqCs _ k | .wtCs _ _ k | .wtUnpark _ k | .lwCs _ k | .dwCs _ k => k.suspSigs
  | .rjDequeue _ k | .rjPending _ _ k | .rjParkCheck _ _ k | .rjPark _ _ k | .rjParked _ _ k => k.suspSigs
  | .jobStart _ c k | .jobAwait _ c k | .jobBodyDone _ c k | .jobEnd _ c k | .jobSignal _ c k
  | .jobSigDrop _ c k | .jobDrop _ c k | .jobDropNotify _ c k | .suspSigDrop _ c k =>
      (match c with | .caller _ => k.suspSigs | _ => [])
  | .pfPollRel _ next => next.suspSigs
  | .dqWakeWith _ _ _ k => k.suspSigs
  | .fdDrop _ k => k.suspSigs
  | _ => []

@[simp] theorem suspSigs_ctxReady (k : Pc) (c : Ctx) : (ctxReady k c).suspSigs = (match c with | .caller _ => k.suspSigs | _ => []) := by
  cases c <;> rfl
@[simp] theorem suspSigs_ctxPending (j : Nat) (k : Pc) (c : Ctx) : (ctxPending j k c).suspSigs = (match c with | .caller _ => k.suspSigs | _ => []) := by
  cases c <;> rfl

/-- job `jb` is entitled to have written `Ok` into the slot of future `r` -/
def Signaller (jb : Job) (r : Nat) : Prop :=
  (jb.kind.res = some r ∧ jb.ended = true) ∨ (∃ op g r', jb.kind = .susp op g r r' ∧ jb.begun = true)

theorem Signaller.mono {jb jb' : Job} {r : Nat} (h : Signaller jb r) (hk : jb'.kind = jb.kind) (hb : jb.begun = true → jb'.begun = true)
    (he : jb.ended = true → jb'.ended = true) : Signaller jb' r := by
  rcases h with ⟨h1, h2⟩ | ⟨op, g, r', h1, h2⟩
  · exact Or.inl ⟨by rw [hk]; exact h1, he h2⟩
  · exact Or.inr ⟨op, g, r', by rw [hk]; exact h1, hb h2⟩

structure ResInv (s : State) : Prop where
  /-- a suspend job whose `finished_suspending` signal is about to be sent has begun -/
  sus : ∀ (a j : Nat), j ∈ (s.pcAt a).suspSigs → ∃ jb : Job, s.jobs[j]? = some jb ∧ jb.begun = true
  /-- while the result slot of a future holds `Ok`, a job whose completion future it is has ended, or it is the `finished_suspending` future
  of a suspend job that has begun -/
  ok : ∀ (r : Nat) (fu : Fut), s.futs[r]? = some fu → fu.res = .ok → ∃ (j : Nat) (jb : Job), s.jobs[j]? = some jb ∧ Signaller jb r

def OkFrom (s X : State) : Prop :=
  ∀ (r : Nat) (fu' : Fut), X.futs[r]? = some fu' → fu'.res = .ok →
    (∃ fu : Fut, s.futs[r]? = some fu ∧ fu.res = .ok) ∨ ∃ (j : Nat) (jb : Job), X.jobs[j]? = some jb ∧ Signaller jb r

theorem OkFrom.same {s X : State} (h : X.futs = s.futs) : OkFrom s X :=
  fun r fu' h1 h2 => Or.inl ⟨fu', by rw [← h]; exact h1, h2⟩

theorem OkFrom.set {s X : State} {f : Nat} {fu v : Fut} (hfu : s.futs[f]? = some fu) (h : X.futs = s.futs.set f v)
    (hv : v.res = .ok → fu.res = .ok ∨ ∃ (j : Nat) (jb : Job), X.jobs[j]? = some jb ∧ Signaller jb f) : OkFrom s X := by
  intro r fu' h1 h2
  rcases getElem?_set_cases (h ▸ h1) with ⟨rfl, rfl⟩ | h1
  · exact (hv h2).imp (fun h3 => ⟨fu, hfu, h3⟩) id
  · exact .inl ⟨fu', h1, h2⟩

theorem ResInv.step {s X : State} (h : ResInv s) (hm : JobMono s X)
    (hsus : ∀ b j : Nat, j ∈ (X.pcAt b).suspSigs → j ∈ (s.pcAt b).suspSigs ∨ ∃ jb : Job, X.jobs[j]? = some jb ∧ jb.begun = true)
    (hf : OkFrom s X) : ResInv X := by
  constructor
  · intro b j hb
    rcases hsus b j hb with h1 | h1
    · obtain ⟨jb, h2, h3⟩ := h.sus b j h1
      obtain ⟨jb', h4, _, _, h5, _⟩ := hm j jb h2
      exact ⟨jb', h4, h5 h3⟩
    · exact h1
  · intro r fu' h1 h2
    rcases hf r fu' h1 h2 with ⟨fu, h3, h4⟩ | h3
    · obtain ⟨j, jb, h5, h6⟩ := h.ok r fu h3 h4
      obtain ⟨jb', h7, h8, _, h9, h10⟩ := hm j jb h5
      exact ⟨j, jb', h7, h6.mono h8 h9 h10⟩
    · exact h3

/-- The mover's next program counter keeps the continuation of the old one; the only signal that becomes pending is that of the
suspend job the step begins. -/
theorem Step.suspSigs_self {s s' : State} {a : Nat} {act : Act} (ha : s.acts[a]? = some act) (hst : Step s a act s') (j : Nat)
    (hj : j ∈ (s'.pcAt a).suspSigs) : j ∈ act.pc.suspSigs ∨ ∃ jb : Job, s'.jobs[j]? = some jb ∧ jb.begun = true := by
  have hlt := hst.lt_acts ha
  cases hst
  case sbPrune => rw [pcAt_setQ, pcAt_goto_of_lt hlt] at hj; cases hj
  -- the rules that also write the mover's result or poll mode; the program counters they go to have no signal pending
  case tsBusy | pfPollReady | pollReadySfSched | pollPendingOnce | sfPollQueue | sfPollSched | sfPollCompleted | sfBlockedOnce
      | dqCheckReady | dqCheck2Ready | fsTakeReady =>
    rw [pcAt_setAct_of_lt hlt] at hj; cases hj
  all_goals rewrite [pcAt_goto_of_lt hlt] at hj; rewrite [‹act.pc = _›]
  case jobStartSusp jb _ _ _ _ _ hjb _ _ =>
    rcases List.mem_cons.mp hj with rfl | hj
    · exact .inr ⟨{ jb with begun := true }, by simp [lt_of_getElem?_some hjb], rfl⟩
    · exact .inl hj
  case suspSignalWake | suspSignal => exact .inl (List.mem_cons_of_mem _ hj)
  case jobAwaitPendingSlot | jobAwaitPending => rw [suspSigs_ctxPending] at hj; exact .inl hj
  case jobDrop | jobDropNotify => rw [suspSigs_ctxReady] at hj; exact .inl hj
  -- everywhere else `suspSigs` of the old and of the new program counter unfold to that of the same continuation
  all_goals exact .inl hj

/-- `Ok` is written by the step that marks the job ended, or by the signal step of a suspend job, whose signal was pending and
which has therefore begun. -/
theorem Step.resInv {s s' : State} {a : Nat} {act : Act} (h : ResInv s) (ha : s.acts[a]? = some act) (hst : Step s a act s') : ResInv s' := by
  have hm := hst.jobMono
  refine h.step hm (fun b j hb => ?_) ?_
  · by_cases hba : b = a
    · subst hba; rw [pcAt_of ha]; exact hst.suspSigs_self ha j hb
    · exact .inl (hst.class_ne (C := Pc.suspSigs) (fun _ => rfl) hba ▸ hb)
  · rcases hst.futs_cases with e | ⟨f, fu, v, hf, e, -, -, hok⟩
    · exact .same e
    · refine .set hf e (fun hv => (hok hv).imp id ?_)
      rintro (⟨j, jb, hjb, hr, he⟩ | ⟨j, c, k, jb, op, g, r, hpc, hjb, hk⟩)
      · exact ⟨j, jb, hjb, .inl ⟨hr, he⟩⟩
      · obtain ⟨jb0, hjb0, hbeg⟩ := h.sus a j (by rw [pcAt_of ha, hpc]; exact List.mem_cons_self)
        cases hjb0.symm.trans hjb
        obtain ⟨jb', hjb', hk', -, hb', -⟩ := hm j jb hjb
        exact ⟨j, jb', hjb', .inr ⟨op, g, r, hk' ▸ hk, hb' hbeg⟩⟩

theorem OkFrom.append {s X : State} {l : List Fut} (h : X.futs = s.futs ++ l) (hl : ∀ fu, fu ∈ l → fu.res = .none) : OkFrom s X := by
  intro r fu' h1 h2
  rcases getElem?_append_cases (h ▸ h1) with h1 | ⟨-, hm⟩
  · exact .inl ⟨fu', h1, h2⟩
  · cases (hl fu' hm).symm.trans h2

theorem Starts.suspSigs {s s0 : State} {c : Call} {pc : Pc} {once : Bool} (h : Starts s c s0 pc once) : pc.suspSigs = [] := by
  cases h <;> rfl

theorem EnvStep.resInv {s s' : State} {l : Label} (h : ResInv s) (he : EnvStep s l s') : ResInv s' := by
  obtain ⟨lf, -, e, -, hl, -⟩ := he.futs_sfs
  exact h.step (.same he.sameCore.jobs) (fun b j hj => .inl (he.pcAt_rel (R := fun pc pc' => ∀ j, j ∈ pc'.suspSigs → j ∈ pc.suspSigs)
    { refl := fun _ _ => id, body := fun _ _ _ => id, parked := fun _ _ _ _ => id, pfBlocked := fun _ _ hj => (nomatch hj),
      sfBlocked := fun _ _ hj => (nomatch hj), ret := fun _ hj => (nomatch hj),
      entry := fun hst j hj => by rw [hst.suspSigs] at hj; cases hj } b j hj)) (.append e (fun fu hm => (hl fu hm).1))

theorem ResInv.of_empty {s : State} (ha : s.acts = []) (hf : s.futs = []) : ResInv s :=
  ⟨fun b j hb => (by rw [pcAt_of_nil ha] at hb; cases hb), fun r fu h1 => by simp [hf] at h1⟩

theorem resInv_reachable {s : State} (hr : Reachable s) : ResInv s :=
  Reachable.invariant (fun _ _ _ => .of_empty rfl rfl) (fun _ h ha _ hst => hst.resInv h ha)
    (fun _ h he => he.resInv h) hr

end Desync
