/-
A panicked object stays panicked and nobody runs it (C15).  Executions may start in states in which some objects have already panicked
(`Reachable.initP`: the panic has finished unwinding and the guard has marked the queue).  From there on `panicked` is absorbing, no
activity ever owns such a queue and none of its jobs is ever run.  Every other theorem is about every reachable state, so it holds in
these executions too: the "other objects remain fully usable" half, at the level of the safety properties.
-/
import DesyncModel.Inv.JobReach
namespace Desync
open Gen

theorem desyncPush_pan : (desyncPush .panicked).1 = .panicked := rfl
theorem syncDecide_pan (e : Bool) : (syncDecide .panicked e).1 = .panicked := by cases e <;> rfl
theorem syncNoPanicDecide_pan (e : Bool) : (syncNoPanicDecide .panicked e).1 = .panicked := by cases e <;> rfl
theorem trySyncDecide_pan (e : Bool) : (trySyncDecide .panicked e).1 = .panicked := by cases e <;> rfl
theorem pollDecide_pan (self : Nat) : (pollDecide self .panicked).1 = .panicked := rfl
theorem futureDropDecide_pan (self : Nat) : (futureDropDecide self .panicked).1 = .panicked := rfl
theorem claim_pan : (claim .panicked).1 = .panicked := rfl
theorem reschedule_pan (e : Bool) : (reschedule .panicked e).1 = .panicked := by cases e <;> rfl
theorem nextToRun_pan : (nextToRun .panicked).1 = .panicked := rfl
theorem drainPending_pan : (drainPending .panicked).1 = .panicked := rfl
theorem drainExit_pan (e : Bool) : (drainExit .panicked e).1 = .panicked := by cases e <;> rfl
theorem runOnePending_pan : (runOnePending .panicked).1 = .panicked := rfl
theorem wakeQueue_pan : (wakeQueue .panicked).1 = .panicked := rfl
theorem wakeThread_pan : wakeThread .panicked = .panicked := rfl

def Pan (s X : State) : Prop := ∀ q, s.qSt q = some .panicked → X.qSt q = some .panicked

theorem Pan.refl (s : State) : Pan s s := fun _ h => h
theorem Pan.same {s Y : State} (hq : Y.qs = s.qs) : Pan s Y := fun q h => by rw [qSt_congr hq]; exact h
/-- the owner of a queue finds it in a held state, so a panicked queue has none -/
theorem HolderInv.not_panicked {s : State} (hh : HolderInv s) {q : Nat} {v : JobQ} (hv : s.qs[q]? = some v) (hp : v.state = .panicked) (a : Nat) :
    (s.pcAt a).holds q = false := by
  cases hx : (s.pcAt a).holds q with
  | false => rfl
  | true =>
    have := hh.held a q v ((hh.iff a q).mp hx) hv
    rw [hp] at this; cases this

/-- `panicked` is absorbing for each of the effects a step can have on the queues: a table applied in passing maps it to itself, the
run right is granted only for a queue that has not panicked, and a queue that has an owner is in a held state. -/
theorem Pan.of_qeffect {s s' : State} {a : Nat} (hh : HolderInv s) (he : QEffect s a s') : Pan s s' := by
  intro q hp
  cases he with
  | frame hq => rw [hq]; exact hp
  | @keep q0 st st' hb ha ho hk =>
    by_cases e : q = q0
    · subst e; rw [ha, hk.2 (Option.some.inj (hb.symm.trans hp))]
    · rw [ho q e]; exact hp
  | @acquire q0 st hb _ ho hg =>
    by_cases e : q = q0
    · subst e; exact absurd (Option.some.inj (hb.symm.trans hp)) (QState.grantable_free hg).2
    · rw [ho q e]; exact hp
  | @release q0 _ _ ho _ _ hold =>
    by_cases e : q = q0
    · obtain ⟨v, hv, hpv⟩ := qSt_some hp
      have := hh.not_panicked hv hpv a
      rw [hold, e, beq_self_eq_true] at this; cases this
    · rw [ho q e]; exact hp

theorem panicked_is_absorbing {s s' : State} (hr : Reachable s) (l : Label) (hstep : next s l = some s') : Pan s s' := by
  rcases next_cases hstep with ⟨a, act, -, ha, -, hst⟩ | he
  · exact .of_qeffect (holderInv_reachable hr) (hst.qeffect (holderInv_reachable hr) ha)
  · exact .same he.sameCore.qs

theorem panicked_queue_runs_nothing {s : State} (hr : Reachable s) {q : Nat} {v : JobQ} (hv : s.qs[q]? = some v) (hp : v.state = .panicked) :
    (∀ a, (s.pcAt a).holds q = false) ∧ (∀ (j : Nat) (jb : Job) (a : Nat), s.jobs[j]? = some jb → jb.q = q → jb.ph ≠ Phase.held a) := by
  have hnone := (holderInv_reachable hr).not_panicked hv hp
  refine ⟨hnone, ?_⟩
  intro j jb a hj hq hph
  have := (held_job_owner_holds hr hj hph).1
  rw [hq, hnone a] at this; cases this

/-- non-vacuity: a reachable state with a panicked object and a healthy one -/
example : ∃ s, Reachable s ∧ s.qSt 0 = some .panicked ∧ s.qSt 1 = some .idle :=
  ⟨_, Reachable.initP [true, false] 0 1, rfl, rfl⟩

/-! `Pan` across some single updates; `Pan.of_qeffect` needs none of these. -/

theorem Pan.setJob_of {s Y : State} {j : Nat} {v : Job} (h : Pan s Y) : Pan s (Y.setJob j v) := fun q hp => (qSt_setJob Y j v q).trans (h q hp)

theorem Pan.table_upd {s Z : State} {q' : Nat} {v v' : JobQ} (hZq : Z.qs = (s.setQ q' v').qs) (hv : s.qs[q']? = some v)
    (hk : v.state = .panicked → v'.state = .panicked) : Pan s Z := by
  intro q hp
  rw [qSt_congr hZq, qSt_setQ hv]
  split
  · next e => rw [hk (Option.some.inj ((qSt_of hv).symm.trans (e ▸ hp)))]
  · exact hp

theorem pan_setChild (s : State) (p : Nat) (c : Option Nat) :
    Pan s (match s.acts[p]? with | some pv => s.setAct p { pv with child := c } | none => s) := by
  split
  · exact .same (qs_setAct _ _ _)
  · exact .refl s

end Desync
