/-
`WfInv`: caller-side continuations are well-formed (`Pc.callerOk`); every step keeps them so.  I_job for states (`JobInv`; `FullInv` with
the order invariant): the invariants of `JobAbs.lean` over the projections of `Job.lean`, and, in terms of the state, what can happen to a
job: it is dequeued, requeued at the front, created in the hands of a `sync` caller, appended to a queue, finished (`FullInv.retire`),
touched (`FullInv.setJob`).
-/
import DesyncModel.Inv.JobAbs
import DesyncModel.Inv.Job
import DesyncModel.Inv.StepFacts

namespace Desync
open Gen

def WfInv (s : State) : Prop := ∀ b, (s.pcAt b).callerOk = true

theorem wfInv_initP (ps : List Bool) (ng max : Nat) : WfInv (initStateP ps ng max) := fun _ => rfl

/-- Most rules move along a continuation they do not look into, so `callerOk` of the new program counter unfolds to that of
the old one.  The others enter `run_one_job_now` from a loop that is a plain continuation for its queue, leave it for that
continuation, or leave a scheduling call.  `(‹act.pc = _› :)` is the rule's hypothesis about the mover's program counter, looked up
before the arguments after it are elaborated: they are checked against the `pc` it fixes. -/
theorem Step.wfInv {s s' : State} {a : Nat} {act : Act} (h : WfInv s) (ha : s.acts[a]? = some act) (hst : Step s a act s') :
    WfInv s' := by
  have hlt := hst.lt_acts ha
  have hS : ∀ {pc pc' : Pc}, act.pc = pc → s'.pcAt a = pc' → (pc.callerOk = true → pc'.callerOk = true) → WfInv s' := fun e e' hok b =>
    if hb : b = a then by rw [hb, e']; exact hok (e ▸ pcAt_of ha ▸ h a)
    else (hst.class_ne (C := Pc.callerOk) (fun _ => rfl) hb).trans (h b)
  cases hst
  case dsPushSchedule | dsPushNone | dsPushPanic => exact hS (‹act.pc = _› :) (pcAt_goto_of_lt hlt) fun _ => rfl
  case sdCheckRun | sbSteal => exact hS (‹act.pc = _› :) (pcAt_goto_of_lt hlt) fun _ => beq_self_eq_true _
  case rjDequeueNone | rjPendingPanic | rjPendingPanicNone | rjParkCheckPanic | rjParkCheckPanicNone =>
    exact hS (‹act.pc = _› :) (pcAt_goto_of_lt hlt) plainFor_callerOk
  case jobAwaitPendingSlot | jobAwaitPending => exact hS (‹act.pc = _› :) (pcAt_goto_of_lt hlt) (callerOk_ctxPending ..).trans
  case jobDrop | jobDropNotify => exact hS (‹act.pc = _› :) (pcAt_goto_of_lt hlt) callerOk_ctxReady_of
  case sbPrune => exact hS (‹act.pc = _› :) ((pcAt_setQ ..).trans (pcAt_goto_of_lt hlt)) fun _ => rfl
  case tsBusy | pfPollReady | pollReadySfSched | pollPendingOnce | sfPollQueue | sfPollSched | sfPollCompleted | sfBlockedOnce | dqCheckReady
      | dqCheck2Ready | fsTakeReady =>
    exact hS (‹act.pc = _› :) (pcAt_setAct_of_lt hlt) id
  all_goals exact hS (‹act.pc = _› :) (pcAt_goto_of_lt hlt) id

theorem wfInv_stepAct {s s' : State} {a : Nat} {o : Obs} (h : WfInv s)
    (hs : stepAct s a = some (s', o)) : WfInv s' := by
  obtain ⟨act, ha, -, hst⟩ := Step.of_stepAct hs
  exact hst.wfInv h ha

theorem EnvStep.wfInv {s s' : State} {l : Label} (h : WfInv s) (he : EnvStep s l s') : WfInv s' := fun b =>
  he.pcAt_rel (R := fun pc pc' => pc.callerOk = true → pc'.callerOk = true)
    { refl := fun _ => id, body := fun _ _ => id, parked := fun _ _ _ => id, pfBlocked := fun _ _ => rfl, sfBlocked := fun _ _ => rfl,
      ret := fun _ => rfl
      entry := fun hst _ => by cases hst <;> rfl } b (h b)

/-- I_job -/
abbrev JobInv (s : State) : Prop := JobInvF (fun a => (s.pcAt a).runningQ) s.jobPQ s.qjobs s.jobOpen

theorem qjobs_initP {ps : List Bool} {ng max q : Nat} {l : List Nat} (h : (initStateP ps ng max).qjobs q = some l) : l = [] := by
  simp only [initStateP, State.qjobs, List.getElem?_map] at h
  cases hp : ps[q]? with
  | none => simp [hp] at h
  | some p => simp [hp] at h; exact h

theorem JobInv.congr {X Y : State} (h : JobInv Y) (hA : X.acts = Y.acts) (hJ : X.jobs = Y.jobs) (hQ : X.qs = Y.qs) : JobInv X :=
  JobInvF.congr h (fun b => by simp only [State.pcAt, hA]) (jobPQ_congr hJ) (fun i => by simp only [State.qjobs, hQ])
    (fun i => by simp only [State.jobOpen, hJ])

theorem heldExcl_of {s : State} (hh : HolderInv s) (hw : WfInv s) (h : JobInv s) : HeldExcl s.jobPQ := by
  intro j1 j2 a1 a2 q h1 h2
  have r1 := h.run2 a1 j1 q h1
  have r2 := h.run2 a2 j2 q h2
  cases hh.exclusive (holds_of_runningQ (hw a1) r1) (holds_of_runningQ (hw a2) r2)
  rw [r1] at r2
  simpa using congrArg Prod.fst (Option.some.inj r2)

abbrev OrderInv (s : State) : Prop := OrderInvF s.jobPQ s.qjobs s.jobB s.jobE s.jobs.length

structure FullInv (s : State) : Prop where
  job : JobInv s
  ord : OrderInv s

theorem FullInv.run1 {s : State} (h : FullInv s) : ∀ a j q, (s.pcAt a).runningQ = some (j, q) → s.jobPQ j = some (.held a, q) := h.job.run1
theorem FullInv.run2 {s : State} (h : FullInv s) : ∀ a j q, s.jobPQ j = some (.held a, q) → (s.pcAt a).runningQ = some (j, q) := h.job.run2
theorem FullInv.queued {s : State} (h : FullInv s) : ∀ q l j, s.qjobs q = some l → j ∈ l → s.jobPQ j = some (.queued, q) := h.job.queued
theorem FullInv.nodup {s : State} (h : FullInv s) : ∀ q l, s.qjobs q = some l → l.Nodup := h.job.nodup

theorem FullInv.of_empty {s : State} (hJ : s.jobs = []) (hQ : ∀ q l, s.qjobs q = some l → l = []) (hR : ∀ a, (s.pcAt a).runningQ = none) :
    FullInv s := by
  have hj : ∀ j, s.jobPQ j = none := fun j => by simp [State.jobPQ, hJ]
  refine ⟨⟨?_, ?_, ?_, ?_, ?_, ?_, ?_⟩, ?_, ?_, ?_, ?_, ?_⟩
  · intro a j q h; rw [hR] at h; cases h
  · intro a j q h; rw [hj] at h; cases h
  · intro q l j h hm; rw [hQ q l h] at hm; cases hm
  · intro q l h; rw [hQ q l h]; exact List.nodup_nil
  · intro j q h; rw [hj] at h; cases h
  · intro j h; simp [State.jobOpen, hJ] at h
  · intro j1 j2 a q h; rw [hj] at h; cases h
  · intro j pq h; rw [hj] at h; cases h
  · intro q l h; rw [hQ q l h]; exact List.Pairwise.nil
  · intro j1 j2 a q h; rw [hj] at h; cases h
  · intro j q h; rw [hj] at h; cases h
  · intro j1 j2 q p1 p2 _ h; rw [hj] at h; cases h

theorem fullInv_initP (ps : List Bool) (ng max : Nat) : FullInv (initStateP ps ng max) :=
  .of_empty rfl (fun _ _ => qjobs_initP) (fun _ => rfl)

theorem open_of_be {s X : State} (hb : ∀ i, X.jobB i = true → s.jobB i = true ∨ ∃ a q, s.jobPQ i = some (.held a, q))
    (he : ∀ i, s.jobE i = true → X.jobE i = true) (i : Nat) (hi : X.jobOpen i = true) :
    s.jobOpen i = true ∨ ∃ a q, s.jobPQ i = some (.held a, q) := by
  rw [jobOpen_eq, Bool.and_eq_true, Bool.not_eq_true'] at hi
  refine (hb i hi.1).imp (fun h1 => ?_) id
  rw [jobOpen_eq, h1, Bool.true_and, Bool.not_eq_true']
  cases hx : s.jobE i with
  | false => rfl
  | true => rw [he i hx] at hi; cases hi.2

theorem FullInv.frame {s s' : State} (h : FullInv s) (hx : HeldExcl s.jobPQ)
    (hR : ∀ b, (s'.pcAt b).runningQ = (s.pcAt b).runningQ) (hj : ∀ i, s'.jobPQ i = s.jobPQ i) (hq : ∀ i, s'.qjobs i = s.qjobs i)
    (hb : ∀ i, s'.jobB i = true → s.jobB i = true ∨ ∃ a q, s.jobPQ i = some (.held a, q))
    (he : ∀ i, s.jobE i = true → s'.jobE i = true) (hn : s'.jobs.length = s.jobs.length) : FullInv s' :=
  ⟨(JobInvF.frameO h.job (open_of_be hb he)).congr hR hj hq (fun _ => rfl),
   (OrderInvF.frameBE hx h.ord hb he).congr hj hq (fun _ => rfl) (fun _ => rfl) hn⟩

/-- the invariant reads the program counters through `runningQ`, the job table, and of the queues their lists -/
theorem FullInv.same {s s' : State} (h : FullInv s) (hR : ∀ b, (s'.pcAt b).runningQ = (s.pcAt b).runningQ)
    (hJ : s'.jobs = s.jobs) (hQ : s'.qs.map JobQ.jobs = s.qs.map JobQ.jobs) : FullInv s' :=
  ⟨JobInvF.congr h.job hR (jobPQ_congr hJ) (qjobs_of_lists hQ) (fun i => by rw [jobOpen_eq, jobOpen_eq, jobB_congr hJ, jobE_congr hJ]),
   OrderInvF.congr h.ord (jobPQ_congr hJ) (qjobs_of_lists hQ) (jobB_congr hJ) (jobE_congr hJ) (by rw [hJ])⟩

theorem FullInv.setJob {s s' : State} {j : Nat} {jb v : Job} (h : FullInv s) (hx : HeldExcl s.jobPQ)
    (hR : ∀ b, (s'.pcAt b).runningQ = (s.pcAt b).runningQ) (hjb : s.jobs[j]? = some jb) (hJ : s'.jobs = s.jobs.set j v)
    (hQ : s'.qs = s.qs) (hph : v.ph = jb.ph) (hvq : v.q = jb.q)
    (hb : v.begun = true → jb.begun = true ∨ ∃ a, jb.ph = .held a) (he : jb.ended = true → v.ended = true) : FullInv s' := by
  refine h.frame hx hR (upd_same (jobPQ_of_set hjb hJ) (by rw [hph, hvq, jobPQ_of hjb])) (qjobs_of_lists (by rw [hQ])) (fun i hi => ?_)
    (fun i hi => ?_) (by rw [hJ, List.length_set])
  · rw [jobB_of_set hjb hJ] at hi
    split at hi
    · next e =>
      rw [e, jobB_of hjb, jobPQ_of hjb]
      exact (hb hi).imp id (fun ⟨a, hph'⟩ => ⟨a, jb.q, by rw [hph']⟩)
    · exact .inl hi
  · rw [jobE_of_set hjb hJ]
    split
    · next e => rw [e, jobE_of hjb] at hi; exact he hi
    · exact hi

theorem JobInv.running {s : State} (h : JobInv s) {a j q : Nat} (hold : (s.pcAt a).runningQ = some (j, q)) :
    ∃ jb, s.jobs[j]? = some jb ∧ jb.ph = .held a ∧ jb.q = q :=
  jobPQ_some (h.run1 a j q hold)

theorem JobInv.held_of_running {s : State} (h : JobInv s) {a j q : Nat} {jb : Job} (hold : (s.pcAt a).runningQ = some (j, q))
    (hjb : s.jobs[j]? = some jb) : jb.ph = .held a := by
  obtain ⟨jb', hjb', hph, -⟩ := h.running hold
  cases hjb.symm.trans hjb'
  exact hph

theorem FullInv.retire {s s' : State} {a j q : Nat} {jb : Job} (h : FullInv s) (hold : (s.pcAt a).runningQ = some (j, q))
    (hR : ∀ b, (s'.pcAt b).runningQ = if b = a then none else (s.pcAt b).runningQ)
    (hjb : s.jobs[j]? = some jb) (hJ : s'.jobs = s.jobs.set j { jb with ph := .done, ended := true })
    (hQ : s'.qs.map JobQ.jobs = s.qs.map JobQ.jobs) : FullInv s' := by
  obtain ⟨jb', hjb', -, hjq⟩ := h.job.running hold
  cases hjb.symm.trans hjb'
  have hj : ∀ i, s'.jobPQ i = if i = j then some (.done, q) else s.jobPQ i := fun i => by rw [jobPQ_of_set hjb hJ, hjq]
  have hB := jobB_of_set_keep hjb hJ rfl
  have hE : ∀ i, s'.jobE i = if i = j then true else s.jobE i := jobE_of_set hjb hJ
  have hO : ∀ i, s'.jobOpen i = if i = j then false else s.jobOpen i := fun i => by
    rw [jobOpen_eq, jobOpen_eq, hB, hE]; split <;> simp
  exact ⟨(JobInvF.retire h.job hold hR hj hO).congr (fun _ => rfl) (fun _ => rfl) (qjobs_of_lists hQ) (fun _ => rfl),
         (OrderInvF.retire h.job h.ord hold hj hE).congr (fun _ => rfl) (qjobs_of_lists hQ) hB (fun _ => rfl) (by rw [hJ, List.length_set])⟩

theorem FullInv.dequeue_take {s s' : State} {a q j : Nat} (h : FullInv s) (hd : (s.dequeue q a).2 = some j)
    (hidle : (s.pcAt a).runningQ = none) (hR : ∀ b, (s'.pcAt b).runningQ = if b = a then some (j, q) else (s.pcAt b).runningQ)
    (hJ : s'.jobs = (s.dequeue q a).1.jobs) (hQ : s'.qs = (s.dequeue q a).1.qs) : FullInv s' := by
  obtain ⟨v, rest, hv, hjobs, hX⟩ := dequeue_some hd
  have hhead : s.qjobs q = some (j :: rest) := by rw [qjobs_of hv, hjobs]
  obtain ⟨jb, hjb, -, rfl⟩ := jobPQ_some (h.queued q _ j hhead (by simp))
  rw [hX, jobs_setJobPh_of (s := s.setQ _ _) hjb, jobs_setQ] at hJ
  rw [hX, qs_setJobPh, qs_setQ] at hQ
  have hj : ∀ i, s'.jobPQ i = if i = j then some (.held a, jb.q) else s.jobPQ i := jobPQ_of_set hjb hJ
  have hq : ∀ i, s'.qjobs i = if i = jb.q then some rest else s.qjobs i := qjobs_of_set hv hQ
  have hB := jobB_of_set_keep hjb hJ rfl
  have hE := jobE_of_set_keep hjb hJ rfl
  exact ⟨(JobInvF.take h.job hidle hhead hR hj hq).congr (fun _ => rfl) (fun _ => rfl) (fun _ => rfl) (fun i => by rw [jobOpen_eq, jobOpen_eq, hB, hE]),
         (OrderInvF.take h.job h.ord hhead hj hq).congr (fun _ => rfl) (fun _ => rfl) hB hE (by rw [hJ, List.length_set])⟩

theorem FullInv.requeue_front {s s' : State} {a q j : Nat} {jb : Job} {v : JobQ} (h : FullInv s) (hx : HeldExcl s.jobPQ)
    (hold : (s.pcAt a).runningQ = some (j, q)) (hR : ∀ b, (s'.pcAt b).runningQ = if b = a then none else (s.pcAt b).runningQ)
    (hjb : s.jobs[j]? = some jb) (hv : s.qs[q]? = some v)
    (hJ : s'.jobs = s.jobs.set j { jb with ph := .queued }) (hQ : s'.qs = s.qs.set q { v with jobs := j :: v.jobs }) : FullInv s' := by
  obtain ⟨jb', hjb', -, rfl⟩ := h.job.running hold
  cases hjb.symm.trans hjb'
  have hj : ∀ i, s'.jobPQ i = if i = j then some (.queued, jb.q) else s.jobPQ i := jobPQ_of_set hjb hJ
  have hq : ∀ i, s'.qjobs i = if i = jb.q then some (j :: v.jobs) else s.qjobs i := qjobs_of_set hv hQ
  have hB := jobB_of_set_keep hjb hJ rfl
  have hE := jobE_of_set_keep hjb hJ rfl
  exact ⟨(JobInvF.requeue h.job hx hold (qjobs_of hv) hR hj hq).congr (fun _ => rfl) (fun _ => rfl) (fun _ => rfl)
           (fun i => by rw [jobOpen_eq, jobOpen_eq, hB, hE]),
         (OrderInvF.requeue h.job hx h.ord hold (qjobs_of hv) hj hq).congr (fun _ => rfl) (fun _ => rfl) hB hE (by rw [hJ, List.length_set])⟩

/-- `sync` / `try_sync` on an idle, empty queue: the caller `a` creates a job that is in its own hands from the start -/
theorem FullInv.newHeld {s s' : State} {a q : Nat} {v : JobQ} {nj : Job} (hh : HolderInv s) (hw : WfInv s) (h : FullInv s)
    (hidle : (s.pcAt a).runningQ = none)
    (hR : ∀ b, (s'.pcAt b).runningQ = if b = a then some (s.jobs.length, q) else (s.pcAt b).runningQ)
    (hv : s.qs[q]? = some v) (hst : v.state = .idle ∧ v.jobs.isEmpty = true)
    (hJ : s'.jobs = s.jobs ++ [nj]) (hph : nj.ph = .held a) (hnq : nj.q = q) (hQ : s'.qs.map JobQ.jobs = s.qs.map JobQ.jobs) : FullInv s' := by
  have hempty : s.qjobs q = some [] := by rw [qjobs_of hv]; simpa using hst.2
  have hnoq : ∀ j, s.jobPQ j ≠ some (.queued, q) := by
    intro j hj
    obtain ⟨l, hl, hm⟩ := h.job.member j q hj
    rw [hempty] at hl; cases hl; cases hm
  -- nobody holds a job of an idle queue
  have hnoh : ∀ j a', s.jobPQ j ≠ some (.held a', q) := by
    intro j a' hj
    have ho := (hh.iff a' q).mp (holds_of_runningQ (hw a') (h.run2 a' j q hj))
    have := hh.held a' q v ho hv
    rw [hst.1] at this; cases this
  have hj : ∀ i, s'.jobPQ i = if i = s.jobs.length then some (.held a, q) else s.jobPQ i := fun i => by rw [jobPQ_of_append hJ, hph, hnq]
  have hB : ∀ i, i ≠ s.jobs.length → s'.jobB i = s.jobB i := fun _ => upd_ne (jobB_of_append hJ)
  have hE : ∀ i, i ≠ s.jobs.length → s'.jobE i = s.jobE i := fun _ => upd_ne (jobE_of_append hJ)
  exact ⟨(JobInvF.newHeld h.job hidle (jobPQ_fresh s) hempty hR hj (fun i hi => by rw [jobOpen_eq, jobOpen_eq, hB i hi, hE i hi])).congr
           (fun _ => rfl) (fun _ => rfl) (qjobs_of_lists hQ) (fun _ => rfl),
         (OrderInvF.newHeld h.ord hnoq hnoh hj hB hE).congr (fun _ => rfl) (qjobs_of_lists hQ) (fun _ => rfl) (fun _ => rfl) (by simp [hJ])⟩

/-- a scheduling call appends a new job to the job table and to the back of queue `q` -/
theorem FullInv.newQueued {s s' : State} {q : Nat} {kind : JobKind} {v v' : JobQ} (h : FullInv s)
    (hR : ∀ b, (s'.pcAt b).runningQ = (s.pcAt b).runningQ) (hv : s.qs[q]? = some v)
    (hJ : s'.jobs = (s.newJob q kind).1.jobs) (hQ : s'.qs = s.qs.set q v') (hv' : v'.jobs = v.jobs ++ [s.jobs.length]) : FullInv s' := by
  rw [jobs_newJob] at hJ
  have hj : ∀ i, s'.jobPQ i = if i = s.jobs.length then some (.queued, q) else s.jobPQ i := jobPQ_of_append hJ
  have hq : ∀ i, s'.qjobs i = if i = q then some (v.jobs ++ [s.jobs.length]) else s.qjobs i := fun i => by rw [qjobs_of_set hv hQ, hv']
  have hB : ∀ i, s'.jobB i = if i = s.jobs.length then false else s.jobB i := jobB_of_append hJ
  have hE : ∀ i, i ≠ s.jobs.length → s'.jobE i = s.jobE i := fun _ => upd_ne (jobE_of_append hJ)
  have hO : ∀ i, s'.jobOpen i = if i = s.jobs.length then false else s.jobOpen i := fun i => by
    rw [jobOpen_eq, jobOpen_eq, hB]
    split
    · rfl
    · next hi => rw [hE i hi]
  exact ⟨(JobInvF.newQueued h.job (jobPQ_fresh s) (qjobs_of hv) hj hq hO).congr hR (fun _ => rfl) (fun _ => rfl) (fun _ => rfl),
         (OrderInvF.newQueued h.job h.ord (qjobs_of hv) hj hq hB hE).congr (fun _ => rfl) (fun _ => rfl) (fun _ => rfl) (fun _ => rfl)
           (by simp [hJ])⟩

/-! The same events stated for `JobInv` alone, and a requeue stated on the result of `goto`; `Step.fullInv` uses the `FullInv` lemmas above and none of these. -/

theorem runR_goto {s X : State} {a : Nat} {pc' : Pc} (hlt : a < X.acts.length) (hpc : ∀ b, X.pcAt b = s.pcAt b) (b : Nat) :
    ((X.goto a pc').pcAt b).runningQ = if b = a then pc'.runningQ else (s.pcAt b).runningQ := by
  rw [pcAt_goto]
  by_cases hab : b = a
  · simp [hab, hlt]
  · simp [hab, Ne.symm hab, hpc]

theorem JobInv.requeue {s X : State} {a j q : Nat} {l0 : List Nat} {pc' : Pc} (h : JobInv s) (hx : HeldExcl s.jobPQ)
    (hlt : a < X.acts.length) (hpc : ∀ b, X.pcAt b = s.pcAt b) (hold : (s.pcAt a).runningQ = some (j, q)) (hq0 : s.qjobs q = some l0)
    (hj : ∀ i, X.jobPQ i = if i = j then some (.queued, q) else s.jobPQ i)
    (hq : ∀ i, X.qjobs i = if i = q then some (j :: l0) else s.qjobs i)
    (ho : ∀ i, X.jobOpen i = s.jobOpen i)
    (hnew : pc'.runningQ = none) : JobInv (X.goto a pc') :=
  (JobInvF.requeue h hx hold hq0 (fun b => by rw [runR_goto hlt hpc, hnew]) hj hq).congr (fun _ => rfl) (jobPQ_goto _ _ _) (qjobs_goto _ _ _)
    (fun i => by rw [jobOpen_goto, ho])

/-- the side condition of `JobInvF.frameO` for a `setJob` that keeps the open flag -/
theorem ho_setJob_keep {s : State} {j : Nat} {b v : Job} (hj : s.jobs[j]? = some b) (hk : v.begun = b.begun ∧ v.ended = b.ended) :
    ∀ i, (s.setJob j v).jobOpen i = true → s.jobOpen i = true ∨ ∃ a q, s.jobPQ i = some (.held a, q) := by
  intro i hi
  rw [jobOpen_setJob_keep hj hk.1 hk.2] at hi
  exact Or.inl hi

/-- the side condition of `JobInvF.frameO` for a `setJob` on a job that is in the hands of a runner -/
theorem ho_setJob_held {s : State} {j : Nat} {b v : Job} (hj : s.jobs[j]? = some b) (hh : ∃ a q, s.jobPQ j = some (.held a, q)) :
    ∀ i, (s.setJob j v).jobOpen i = true → s.jobOpen i = true ∨ ∃ a q, s.jobPQ i = some (.held a, q) := by
  intro i hi
  rw [jobOpen_setJob_of hj] at hi
  split at hi
  · next e => rw [e]; exact Or.inr hh
  · exact Or.inl hi

theorem FullInv.requeue {s X : State} {a j q : Nat} {l0 : List Nat} {pc' : Pc} (h : FullInv s) (hx : HeldExcl s.jobPQ)
    (hlt : a < X.acts.length) (hpc : ∀ b, X.pcAt b = s.pcAt b) (hold : (s.pcAt a).runningQ = some (j, q)) (hq0 : s.qjobs q = some l0)
    (hj : ∀ i, X.jobPQ i = if i = j then some (.queued, q) else s.jobPQ i)
    (hq : ∀ i, X.qjobs i = if i = q then some (j :: l0) else s.qjobs i)
    (hb : ∀ i, X.jobB i = s.jobB i) (he : ∀ i, X.jobE i = s.jobE i) (hn : X.jobs.length = s.jobs.length)
    (hnew : pc'.runningQ = none) : FullInv (X.goto a pc') :=
  ⟨JobInv.requeue h.job hx hlt hpc hold hq0 hj hq (fun i => by rw [jobOpen_eq, jobOpen_eq, hb, he]) hnew,
   (OrderInvF.requeue h.job hx h.ord hold hq0 hj hq).congr (jobPQ_goto _ _ _) (qjobs_goto _ _ _) (fun i => by rw [jobB_goto, hb]) (fun i => by rw [jobE_goto, he])
     (by rw [jobs_goto, hn])⟩

end Desync
