/-
I_wake, pool context (C06), where no returned future is polled (`ReachableNT`): a queue that a pool thread has parked in
`WaitingForWake` has, for the suspended operation at its head, the queue's waker still registered with the awaited event or a
`WakeQueue` wake-up for the queue on its way.  The delicate window is between the poll that registers the waker and the critical
section that marks the queue as waiting: a wake-up that lands there finds the queue `Running`, makes it `AwokenWhileRunning`,
and the pool thread then polls again instead of parking.
-/
import DesyncModel.Inv.Park
import DesyncModel.Inv.JobInv

namespace Desync
open Gen

/-- a `WakeQueue(q)` wake-up is on its way in this activity: `q`'s waker is in a list of wakers still to be fired, or the
activity is about to run `WakeQueue::wake` for `q` -/
def Pc.wakesQ : Pc → Nat → Bool
  | .waking ws k, q => ws.contains (.queue q) || k.wakesQ q
  | .wqCs q' k, q => q' == q || k.wakesQ q
  | .begin _ k, q | .body _ k, q | .unwinding k, q => k.wakesQ q
  | .stReap k, q | .stScanLock k, q | .stScan _ k, q | .stScanHeld _ k, q | .stScanRel _ _ k, q
  | .stScanUnlock _ k, q | .stReadMax k, q | .stSpawn _ k, q | .stSpawnRel k, q => k.wakesQ q
  | .rqCs _ k, q | .rqNotifyAcq _ _ _ k, q | .rqNotify _ _ _ k, q | .rqNotifyRel _ _ _ k, q | .rqPush _ k, q => k.wakesQ q
  | .resumeSend _ k, q | .openSend _ k, q | .wtCs _ _ k, q | .wtUnpark _ k, q | .lwCs _ k, q | .dwCs _ k, q => k.wakesQ q
  | .rjDequeue _ k, q | .rjPending _ _ k, q | .rjParkCheck _ _ k, q | .rjPark _ _ k, q | .rjParked _ _ k, q => k.wakesQ q
  | .jobStart _ c k, q | .jobAwait _ c k, q | .jobBodyDone _ c k, q | .jobEnd _ c k, q | .jobSignal _ c k, q
  | .jobSigDrop _ c k, q | .jobDrop _ c k, q | .jobDropNotify _ c k, q | .suspSignal _ c k, q | .suspSigDrop _ c k, q =>
      (match c with | .caller _ => k.wakesQ q | _ => false)
  | .pfPollRel _ next, q => next.wakesQ q
  | .dqWakeWith _ _ _ k, q => k.wakesQ q
  | .fdDrop _ k, q => k.wakesQ q
  | _, _ => false

theorem wakesQ_waking (ws : List Waker) (k : Pc) (q : Nat) : (Pc.waking ws k).wakesQ q = (ws.contains (.queue q) || k.wakesQ q) := rfl
theorem wakesQ_wqCs (q' : Nat) (k : Pc) (q : Nat) : (Pc.wqCs q' k).wakesQ q = (q' == q || k.wakesQ q) := rfl

/-- the pool thread has polled job `j` of queue `q` (which registered the queue's waker) and is about to put it back -/
def Pc.requeuing : Pc → Option (Nat × Nat)
  | .pdRequeue _ q j => some (q, j)
  | .begin _ k | .body _ k => k.requeuing
  | .stReap k | .stScanLock k | .stScan _ k | .stScanHeld _ k | .stScanRel _ _ k
  | .stScanUnlock _ k | .stReadMax k | .stSpawn _ k | .stSpawnRel k => k.requeuing
  | .rqCs _ k | .rqNotifyAcq _ _ _ k | .rqNotify _ _ _ k | .rqNotifyRel _ _ _ k | .rqPush _ k => k.requeuing
  | .resumeSend _ k | .waking _ k | .openSend _ k | .wqCs _ k | .wtCs _ _ k | .wtUnpark _ k | .lwCs _ k | .dwCs _ k => k.requeuing
  | .rjDequeue _ k | .rjPending _ _ k | .rjParkCheck _ _ k | .rjPark _ _ k | .rjParked _ _ k => k.requeuing
  | .jobStart _ c k | .jobAwait _ c k | .jobBodyDone _ c k | .jobEnd _ c k | .jobSignal _ c k
  | .jobSigDrop _ c k | .jobDrop _ c k | .jobDropNotify _ c k | .suspSignal _ c k | .suspSigDrop _ c k =>
      (match c with | .caller _ => k.requeuing | _ => none)
  | .pfPollRel _ next => next.requeuing
  | .dqWakeWith _ _ _ k => k.requeuing
  | .fdDrop _ k => k.requeuing
  | _ => none

/-- the pool thread has put the polled job back and is about to mark queue `q` as waiting -/
def Pc.pending : Pc → Option Nat
  | .pdPending _ q => some q
  | .begin _ k | .body _ k => k.pending
  | .stReap k | .stScanLock k | .stScan _ k | .stScanHeld _ k | .stScanRel _ _ k
  | .stScanUnlock _ k | .stReadMax k | .stSpawn _ k | .stSpawnRel k => k.pending
  | .rqCs _ k | .rqNotifyAcq _ _ _ k | .rqNotify _ _ _ k | .rqNotifyRel _ _ _ k | .rqPush _ k => k.pending
  | .resumeSend _ k | .waking _ k | .openSend _ k | .wqCs _ k | .wtCs _ _ k | .wtUnpark _ k | .lwCs _ k | .dwCs _ k => k.pending
  | .rjDequeue _ k | .rjPending _ _ k | .rjParkCheck _ _ k | .rjPark _ _ k | .rjParked _ _ k => k.pending
  | .jobStart _ c k | .jobAwait _ c k | .jobBodyDone _ c k | .jobEnd _ c k | .jobSignal _ c k
  | .jobSigDrop _ c k | .jobDrop _ c k | .jobDropNotify _ c k | .suspSignal _ c k | .suspSigDrop _ c k =>
      (match c with | .caller _ => k.pending | _ => none)
  | .pfPollRel _ next => next.pending
  | .dqWakeWith _ _ _ k => k.pending
  | .fdDrop _ k => k.pending
  | _ => none

@[simp] theorem wakesQ_ctxReady (k : Pc) (c : Ctx) (q : Nat) : (ctxReady k c).wakesQ q = (match c with | .caller _ => k.wakesQ q | _ => false) := by
  cases c <;> rfl
@[simp] theorem wakesQ_ctxPending (j : Nat) (k : Pc) (c : Ctx) (q : Nat) : (ctxPending j k c).wakesQ q = (match c with | .caller _ => k.wakesQ q | _ => false) := by
  cases c <;> rfl
@[simp] theorem requeuing_ctxReady (k : Pc) (c : Ctx) : (ctxReady k c).requeuing = (match c with | .caller _ => k.requeuing | _ => none) := by
  cases c <;> rfl
@[simp] theorem requeuing_ctxPending (j : Nat) (k : Pc) (c : Ctx) :
    (ctxPending j k c).requeuing = (match c with | .caller _ => k.requeuing | .pool _ q => some (q, j) | .task _ _ _ => none) := by
  cases c <;> rfl
@[simp] theorem pending_ctxReady (k : Pc) (c : Ctx) : (ctxReady k c).pending = (match c with | .caller _ => k.pending | _ => none) := by
  cases c <;> rfl
@[simp] theorem pending_ctxPending (j : Nat) (k : Pc) (c : Ctx) : (ctxPending j k c).pending = (match c with | .caller _ => k.pending | _ => none) := by
  cases c <;> rfl

theorem plainFor_facts {k : Pc} {q : Nat} (h : k.plainFor q = true) : k.requeuing = none ∧ k.pending = none := by
  rcases plainFor_cases h with ⟨j, rfl⟩ | ⟨j, rfl⟩ <;> exact ⟨rfl, rfl⟩

theorem parks_facts (pc : Pc) (q : Nat) (hc : pc.callerOk = true) (hp : pc.parks q = true) :
    pc.holds q = true ∧ pc.requeuing = none ∧ pc.pending = none := by
  cases pc <;> first | cases hp | (rename_i k; cases beq_iff_eq.mp hp; exact ⟨plainFor_holds (k := k) hc, plainFor_facts (k := k) hc⟩)

theorem pending_holds (pc : Pc) (q : Nat) (h : pc.pending = some q) : pc.holds q = true := by
  induction pc
  case pdPending => cases h; exact beq_self_eq_true _
  case jobStart c _ ih | jobAwait c _ ih | jobBodyDone c _ ih | jobEnd c _ ih | jobSignal c _ ih | jobSigDrop c _ ih | jobDrop c _ ih
      | jobDropNotify c _ ih | suspSignal c _ ih | suspSigDrop c _ ih =>
    cases c
    case caller => exact ih h
    all_goals cases h
  -- a program counter that only carries a continuation passes the claim on; every other one is in no window
  all_goals first | exact ‹_ → _› h | cases h

theorem requeuing_runningQ (pc : Pc) (q j : Nat) (hc : pc.callerOk = true) (h : pc.requeuing = some (q, j)) : pc.runningQ = some (j, q) := by
  induction pc
  case pdRequeue => cases h; rfl
  -- `run_one_job_now` carries a plain continuation
  case rjDequeue | rjPending | rjParkCheck | rjPark | rjParked => cases (plainFor_facts hc).1.symm.trans h
  case jobStart c _ _ | jobAwait c _ _ | jobBodyDone c _ _ | jobEnd c _ _ | jobSignal c _ _ | jobSigDrop c _ _ | jobDrop c _ _
      | jobDropNotify c _ _ | suspSignal c _ _ | suspSigDrop c _ _ =>
    cases c
    case caller => cases (plainFor_facts hc).1.symm.trans h
    all_goals cases h
  all_goals first | exact ‹_ → _ → _› hc h | cases h

/-- the waker registered with the event job `j` awaits -/
def State.regW (s : State) (j : Nat) : Option Waker := (s.jobs[j]?).bind (·.reg)

theorem regW_congr {X s : State} (h : X.jobs = s.jobs) (j : Nat) : X.regW j = s.regW j := by simp only [State.regW, h]

theorem regW_set {s X : State} {j0 : Nat} {b v : Job} (hb : s.jobs[j0]? = some b) (hX : X.jobs = s.jobs.set j0 v) (j : Nat) :
    X.regW j = if j = j0 then v.reg else s.regW j := by
  by_cases e : j = j0 <;> simp [State.regW, hX, getElem?_set_of hb, e]

theorem regW_set_keep {s X : State} {j0 : Nat} {b v : Job} (hX : X.jobs = s.jobs.set j0 v) (hb : s.jobs[j0]? = some b) (hr : v.reg = b.reg)
    (j : Nat) : X.regW j = s.regW j := by
  rw [regW_set hb hX]; split
  · next e => rw [e, hr]; simp [State.regW, hb]
  · rfl

theorem regW_append {s X : State} {nj : Job} (hX : X.jobs = s.jobs ++ [nj]) (hn : nj.reg = none) (j : Nat) : X.regW j = s.regW j := by
  by_cases e : j = s.jobs.length <;> simp [State.regW, hX, getElem?_append_one, e, hn]

/-- queue `q`'s own waker is registered for job `j` -/
def Reg (s : State) (q j : Nat) : Prop := s.regW j = some (.queue q)

/-- a `WakeQueue(q)` wake-up is on its way -/
def Flight (s : State) (q : Nat) : Prop := ∃ a, (s.pcAt a).wakesQ q = true

structure WakeInv (s : State) : Prop where
  /-- a queue the pool has parked in `WaitingForWake` has a job at its head (the suspended operation, put back), and for it the queue's waker is still
  registered with the awaited event or a `WakeQueue` wake-up for the queue is on its way -/
  parked : ∀ q, s.qSt q = some .waitingForWake → ∃ j rest, s.qjobs q = some (j :: rest) ∧ (Reg s q j ∨ Flight s q)
  /-- a pool thread that has polled a job and is about to put it back finds the queue's waker still registered, or its wake-up on its way,
  or the wake-up landed and remembered as `AwokenWhileRunning` (then `drain` polls again instead of parking) -/
  poll1 : ∀ a q j, (s.pcAt a).requeuing = some (q, j) → Reg s q j ∨ Flight s q ∨ s.qSt q = some .awokenWhileRunning
  /-- the same one step later, when the pool thread has put the job back and is about to mark the queue as waiting, said of the job now at
  the head of the queue -/
  poll2 : ∀ a q, (s.pcAt a).pending = some q →
    ∃ j rest, s.qjobs q = some (j :: rest) ∧ (Reg s q j ∨ Flight s q ∨ s.qSt q = some .awokenWhileRunning)

/-! Both contexts of I_wake follow a waker `w` from its registration with the event job `j` awaits to the critical section in which its
wake-up lands on queue `q`, where it applies a table `tab` to the queue's state: `w = .queue q`, `Pc.wakesQ · q` and `wakeQueue` for
a queue the pool has parked, `w = .thread q t`, `Pc.wakesT · q t` and `wakeThread` for a caller parked inside `sync`. -/

/-- `w` is registered for job `j`, or one of its wake-ups (`fl` says at which program counters) is on its way -/
def Armed (fl : Pc → Bool) (w : Waker) (s : State) (j : Nat) : Prop := s.regW j = some w ∨ ∃ a, fl (s.pcAt a) = true

/-- the step ran the critical section of a wake-up for `q` -/
def Landed (tab : QState → QState) (s X : State) (q : Nat) : Prop := ∃ st, s.qSt q = some st ∧ X.qSt q = some (tab st)

section
variable {fl : Pc → Bool} {w : Waker} {tab : QState → QState} {s X : State} {q j : Nat}

theorem Armed.step (h : Armed fl w s j) (hreg : s.regW j = some w → Armed fl w X j)
    (hfl : ∀ b, fl (s.pcAt b) = true → fl (X.pcAt b) = true ∨ Landed tab s X q) : Armed fl w X j ∨ Landed tab s X q :=
  h.elim (fun h => .inl (hreg h)) fun ⟨b, hb⟩ => (hfl b hb).imp (fun h => .inr ⟨b, h⟩) id

/-- a queue that is parked after the step has not had a wake-up land on it -/
theorem Armed.step_parked (h : Armed fl w s j) (hreg : s.regW j = some w → Armed fl w X j)
    (hfl : ∀ b, fl (s.pcAt b) = true → fl (X.pcAt b) = true ∨ Landed tab s X q) (hnot : ∀ st, X.qSt q ≠ some (tab st)) :
    Armed fl w X j :=
  (h.step hreg hfl).resolve_right fun ⟨st, _, h7⟩ => hnot st h7

/-- in a poller's window a remembered wake-up will do as well, and a wake-up that lands there is remembered -/
theorem Armed.step_polled (h : Armed fl w s j ∨ s.qSt q = some .awokenWhileRunning) (hreg : s.regW j = some w → Armed fl w X j)
    (hfl : ∀ b, fl (s.pcAt b) = true → fl (X.pcAt b) = true ∨ Landed tab s X q)
    (hrun : ∀ st, s.qSt q = some st → tab st = .awokenWhileRunning)
    (haw : s.qSt q = some .awokenWhileRunning → X.qSt q = some .awokenWhileRunning) :
    Armed fl w X j ∨ X.qSt q = some .awokenWhileRunning :=
  h.elim (fun hA => (hA.step hreg hfl).imp_right fun ⟨st, h6, h7⟩ => h7.trans (congrArg some (hrun st h6))) fun h => .inr (haw h)

end

/-- What a step may do to the state word of a queue its mover does not own, as far as I_wake cares: it parks the queue in neither way
and does not forget a remembered wake-up. -/
structure QStSoft (s X : State) (q : Nat) : Prop where
  wfw : X.qSt q = some .waitingForWake → s.qSt q = some .waitingForWake
  wfu : X.qSt q = some .waitingForUnpark → s.qSt q = some .waitingForUnpark
  aw : s.qSt q = some .awokenWhileRunning → X.qSt q = some .awokenWhileRunning

/-- and to the queue: its head job also stays where it is -/
structure QSoft (s X : State) (q : Nat) : Prop extends QStSoft s X q where
  head : ∀ j rest, s.qjobs q = some (j :: rest) → ∃ rest', X.qjobs q = some (j :: rest')

theorem QStSoft.of_same {s X : State} {q : Nat} (h1 : X.qSt q = s.qSt q) : QStSoft s X q :=
  ⟨fun h => h1 ▸ h, fun h => h1 ▸ h, fun h => h1 ▸ h⟩

theorem QSoft.of_same {s X : State} {q : Nat} (h1 : X.qSt q = s.qSt q) (h2 : X.qjobs q = s.qjobs q) : QSoft s X q :=
  ⟨.of_same h1, fun _ rest h => ⟨rest, h2 ▸ h⟩⟩

/-- a state word rewritten by a table that neither parks the queue nor forgets a remembered wake-up -/
def QState.keepsWake (st st' : QState) : Prop :=
  (st' = .waitingForWake → st = .waitingForWake) ∧ (st' = .waitingForUnpark → st = .waitingForUnpark) ∧
  (st = .awokenWhileRunning → st' = .awokenWhileRunning)

theorem QSoft.of_set {s X : State} {q0 : Nat} {v v' : JobQ} (hv : s.qs[q0]? = some v) (hX : X.qs = s.qs.set q0 v')
    (hk : v.state.keepsWake v'.state) {l : List Nat} (hj : v'.jobs = v.jobs ++ l) (q : Nat) : QSoft s X q := by
  have h1 := qSt_of_set hv hX q
  have h2 := qjobs_of_set hv hX q
  by_cases e : q = q0
  · subst e
    rw [if_pos rfl] at h1 h2
    refine ⟨⟨fun h => ?_, fun h => ?_, fun h => ?_⟩, fun j rest h => ⟨rest ++ l, ?_⟩⟩
    · rw [qSt_of hv, hk.1 (Option.some.inj (h1.symm.trans h))]
    · rw [qSt_of hv, hk.2.1 (Option.some.inj (h1.symm.trans h))]
    · rw [h1, hk.2.2 (Option.some.inj ((qSt_of hv).symm.trans h))]
    · rw [h2, hj, Option.some.inj ((qjobs_of hv).symm.trans h)]; rfl
  · rw [if_neg e] at h1 h2; exact .of_same h1 h2

theorem wakeQueue_not_wfw (st : QState) : (wakeQueue st).1 ≠ .waitingForWake := by cases st <;> simp [wakeQueue]
theorem wakeQueue_awoken {st : QState} (h : st = .running ∨ st = .awokenWhileRunning) : (wakeQueue st).1 = .awokenWhileRunning := by
  rcases h with rfl | rfl <;> rfl

theorem runners_eq {s : State} (hf : FullInv s) {a b j q q' : Nat} (ha : (s.pcAt a).runningQ = some (j, q))
    (hb : (s.pcAt b).runningQ = some (j, q')) : a = b := by
  cases (hf.run1 a j q ha).symm.trans (hf.run1 b j q' hb)
  rfl

theorem held_of_holds {s : State} (hh : HolderInv s) {a q : Nat} (hold : (s.pcAt a).holds q = true) {st : QState}
    (hst : s.qSt q = some st) : st.held = true := by
  obtain ⟨v, hv, rfl⟩ := qSt_some hst
  exact hh.held a q v ((hh.iff a q).mp hold) hv

theorem no_wfw_held {s : State} (hh : HolderInv s) {a q : Nat} (hold : (s.pcAt a).holds q = true) : s.qSt q ≠ some .waitingForWake :=
  fun hst => nomatch held_of_holds hh hold hst

theorem held_running {s : State} (hh : HolderInv s) (hw : WfInv s) (hp : ParkInv s) {b q : Nat} (hb : (s.pcAt b).holds q = true)
    (hnp : (s.pcAt b).parks q = false) {st : QState} (hst : s.qSt q = some st) : st = .running ∨ st = .awokenWhileRunning := by
  have hheld := held_of_holds hh hb hst
  cases st with
  | running => exact .inl rfl
  | awokenWhileRunning => exact .inr rfl
  | waitingForUnpark =>
    -- somebody is in the park loop (I_park) and owns the queue: it is `b`
    obtain ⟨c, hc⟩ := hp.park q hst
    cases hh.exclusive (parks_facts _ q (hw c) hc).1 hb
    rw [hnp] at hc; cases hc
  | _ => cases hheld

theorem poller_running {s : State} (hh : HolderInv s) (hw : WfInv s) (hp : ParkInv s) {b q : Nat}
    (hb : (∃ j, (s.pcAt b).requeuing = some (q, j)) ∨ (s.pcAt b).pending = some q) {st : QState} (hst : s.qSt q = some st) :
    st = .running ∨ st = .awokenWhileRunning := by
  refine held_running hh hw hp (b := b) ?_ (Bool.eq_false_iff.mpr fun hc => ?_) hst
  · exact hb.elim (fun ⟨j, h1⟩ => holds_of_runningQ (hw b) (requeuing_runningQ _ q j (hw b) h1)) (pending_holds _ q)
  · have hf := parks_facts _ q (hw b) hc
    rcases hb with ⟨j, h1⟩ | h1
    · cases hf.2.1.symm.trans h1
    · cases hf.2.2.symm.trans h1

/-- The general step.  The mover `a`: its own clauses in the new state and the parked clause of the queues it owns are
obligations (`hnew1`, `hnew2`, `hpark`); for everything else it is enough to say how wake-ups in flight (`hW`),
registrations (`hreg`) and each queue (`hq`) changed, and that no other activity enters a window (`hR`, `hP`). -/
theorem WakeInv.step {s X : State} {a : Nat} (h : WakeInv s) (hh : HolderInv s) (hw : WfInv s) (hf : FullInv s) (hp : ParkInv s)
    (hW : ∀ b q, (s.pcAt b).wakesQ q = true → (X.pcAt b).wakesQ q = true ∨ Landed (fun st => (wakeQueue st).1) s X q)
    (hR : ∀ b, b ≠ a → ∀ x, (X.pcAt b).requeuing = some x → (s.pcAt b).requeuing = some x)
    (hP : ∀ b, b ≠ a → ∀ q, (X.pcAt b).pending = some q → (s.pcAt b).pending = some q)
    (hreg : ∀ q j, Reg s q j → Reg X q j ∨ Flight X q ∨ ∃ q', (s.pcAt a).runningQ = some (j, q'))
    (hq : ∀ q, QSoft s X q ∨ (s.pcAt a).holds q = true)
    (hpark : ∀ q, (s.pcAt a).holds q = true → X.qSt q = some .waitingForWake →
      ∃ j rest, X.qjobs q = some (j :: rest) ∧ (Reg X q j ∨ Flight X q))
    (hnew1 : ∀ q j, (X.pcAt a).requeuing = some (q, j) → Reg X q j ∨ Flight X q ∨ X.qSt q = some .awokenWhileRunning)
    (hnew2 : ∀ q, (X.pcAt a).pending = some q →
      ∃ j rest, X.qjobs q = some (j :: rest) ∧ (Reg X q j ∨ Flight X q ∨ X.qSt q = some .awokenWhileRunning)) : WakeInv X := by
  have hqueued : ∀ q j rest, s.qjobs q = some (j :: rest) → ∀ q', (s.pcAt a).runningQ ≠ some (j, q') := fun q j rest hl q' hr => by
    have h2 := hf.run1 a j q' hr
    rw [hf.queued q _ j hl List.mem_cons_self] at h2; cases h2
  have hreg' : ∀ q j, (∀ q', (s.pcAt a).runningQ ≠ some (j, q')) → Reg s q j → Reg X q j ∨ Flight X q := fun q j hno hr =>
    (hreg q j hr).elim .inl fun h1 => h1.elim .inr fun ⟨q', h2⟩ => absurd h2 (hno q')
  -- the queue of a poller is being run, so a wake-up that lands on it is remembered
  have polled : ∀ b q j, QSoft s X q → (∃ j, (s.pcAt b).requeuing = some (q, j)) ∨ (s.pcAt b).pending = some q →
      (∀ q', (s.pcAt a).runningQ ≠ some (j, q')) → Reg s q j ∨ Flight s q ∨ s.qSt q = some .awokenWhileRunning →
      Reg X q j ∨ Flight X q ∨ X.qSt q = some .awokenWhileRunning := fun b q j hs hb hno hc =>
    or_assoc.mp (Armed.step_polled (fl := (Pc.wakesQ · q)) (tab := fun st => (wakeQueue st).1) (or_assoc.mpr hc) (hreg' q j hno) (hW · q)
      (fun st h6 => wakeQueue_awoken (poller_running hh hw hp hb h6)) hs.aw)
  refine ⟨?_, ?_, ?_⟩
  · intro q hst
    rcases hq q with hs | hhold
    · obtain ⟨j, rest, hl, hc⟩ := h.parked q (hs.wfw hst)
      obtain ⟨rest', hl'⟩ := hs.head j rest hl
      exact ⟨j, rest', hl', Armed.step_parked (fl := (Pc.wakesQ · q)) (tab := fun st => (wakeQueue st).1) hc
        (hreg' q j (hqueued q j rest hl)) (hW · q) fun st h7 => wakeQueue_not_wfw st (Option.some.inj (h7.symm.trans hst))⟩
    · exact hpark q hhold hst
  · intro b q j hb
    by_cases hba : b = a
    · subst hba; exact hnew1 q j hb
    · replace hb := hR b hba _ hb
      have hrun := requeuing_runningQ _ q j (hw b) hb
      have hs := (hq q).resolve_right fun hhold => hba (hh.exclusive hhold (holds_of_runningQ (hw b) hrun)).symm
      exact polled b q j hs (.inl ⟨j, hb⟩) (fun q' hr => hba (runners_eq hf hrun hr)) (h.poll1 b q j hb)
  · intro b q hb
    by_cases hba : b = a
    · subst hba; exact hnew2 q hb
    · replace hb := hP b hba q hb
      have hs := (hq q).resolve_right fun hhold => hba (hh.exclusive hhold (pending_holds _ q hb)).symm
      obtain ⟨j, rest, hl, hc⟩ := h.poll2 b q hb
      obtain ⟨rest', hl'⟩ := hs.head j rest hl
      exact ⟨j, rest', hl', polled b q j hs (.inr hb) (hqueued q j rest hl) hc⟩

theorem WakeInv.soft {s X : State} (h : WakeInv s) (hh : HolderInv s) (hw : WfInv s) (hf : FullInv s) (hp : ParkInv s)
    (hW : ∀ b q, (s.pcAt b).wakesQ q = true → (X.pcAt b).wakesQ q = true ∨ Landed (fun st => (wakeQueue st).1) s X q)
    (hR : ∀ b x, (X.pcAt b).requeuing = some x → (s.pcAt b).requeuing = some x)
    (hP : ∀ b q, (X.pcAt b).pending = some q → (s.pcAt b).pending = some q)
    (hreg : ∀ q j, Reg s q j → Reg X q j ∨ Flight X q) (hq : ∀ q, QSoft s X q) : WakeInv X := by
  -- the mover of the general lemma is an index no activity has
  have hs : s.pcAt (s.acts.length + X.acts.length) = .dead := pcAt_of_ge (by omega)
  have hX : X.pcAt (s.acts.length + X.acts.length) = .dead := pcAt_of_ge (by omega)
  refine h.step (a := s.acts.length + X.acts.length) hh hw hf hp hW (fun b _ => hR b) (fun b _ => hP b)
    (fun q j hr => (hreg q j hr).imp_right .inl) (fun q => .inl (hq q)) ?_ ?_ ?_
  · intro q hq'; rw [hs] at hq'; cases hq'
  · intro q j hq'; rw [hX] at hq'; cases hq'
  · intro q hq'; rw [hX] at hq'; cases hq'

/-! `WakeInv.step` specialised to the owner of a queue; the step theorem (Inv/WakeStep.lean) calls `WakeInv.step` through
`WakeInv.frame_step` and does not use this. -/

/-- A step of the owner of queue `q0` that rewrites only that queue's record (and perhaps job phases), leaves it un-parked,
and after which the mover is not a pool thread between a poll and the parking decision. -/
theorem WakeInv.holder {s X : State} {a q0 : Nat} (h : WakeInv s) (hh : HolderInv s) (hw : WfInv s) (hf : FullInv s) (hp : ParkInv s)
    (hold : (s.pcAt a).holds q0 = true)
    (hoth : ∀ b, b ≠ a → X.pcAt b = s.pcAt b)
    (hWa : ∀ q, (s.pcAt a).wakesQ q = true → (X.pcAt a).wakesQ q = true)
    (hRa : (X.pcAt a).requeuing = none) (hPa : (X.pcAt a).pending = none)
    (hreg : ∀ j, X.regW j = s.regW j)
    (hqs : ∀ q, q ≠ q0 → X.qSt q = s.qSt q ∧ X.qjobs q = s.qjobs q)
    (hnw : X.qSt q0 ≠ some .waitingForWake) : WakeInv X := by
  refine h.step (a := a) hh hw hf hp ?_ (fun b hba x hb => by rw [hoth b hba] at hb; exact hb)
    (fun b hba x hb => by rw [hoth b hba] at hb; exact hb) (fun q j hr => .inl ((hreg j).trans hr)) ?_ ?_ ?_ ?_
  · intro b q hb
    by_cases hba : b = a
    · subst hba; exact .inl (hWa q hb)
    · exact .inl (by rw [hoth b hba]; exact hb)
  · intro q
    by_cases hq : q = q0
    · subst hq; exact .inr hold
    · exact .inl (.of_same (hqs q hq).1 (hqs q hq).2)
  · intro q hq hst
    by_cases hq0 : q = q0
    · subst hq0; exact absurd hst hnw
    · rw [(hqs q hq0).1] at hst
      exact absurd hst (no_wfw_held hh hq)
  · intro q j hq; rw [hRa] at hq; cases hq
  · intro q hq; rw [hPa] at hq; cases hq

end Desync
