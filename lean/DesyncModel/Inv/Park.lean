/-
I_park (C04 / C06, the "thread inside sync" context): a queue in the `WaitingForUnpark` state always has a sync caller in the
park loop of `run_one_job_now` for that queue — the state is written only by the caller that then parks, and that caller leaves
the loop only when its check finds another state (`WakeThread::wake` takes it back to `Running`).  So a `WakeThread` wake-up for
the queue finds a caller there to re-check the state; which thread the waker names is not part of this invariant.
-/
import DesyncModel.Inv.QEffect

namespace Desync
open Gen

/-- the activity is in the park loop of `run_one_job_now` for queue `q` -/
def Pc.parks : Pc → Nat → Bool
  | .rjParkCheck q' _ _, q | .rjPark q' _ _, q | .rjParked q' _ _, q => q' == q
  | _, _ => false

structure ParkInv (s : State) : Prop where
  park : ∀ q, s.qSt q = some .waitingForUnpark → ∃ a, (s.pcAt a).parks q = true

/-- no activity but `a` leaves the park loop -/
def ParksKept (s X : State) (a : Nat) : Prop := ∀ b, b ≠ a → ∀ q, (s.pcAt b).parks q = true → (X.pcAt b).parks q = true

theorem ParkInv.step {s X : State} {a : Nat} (h : ParkInv s) (hoth : ParksKept s X a)
    (hq : ∀ q, X.qSt q = some .waitingForUnpark → s.qSt q = some .waitingForUnpark ∨ (X.pcAt a).parks q = true)
    (hmine : ∀ q, (s.pcAt a).parks q = true → (X.pcAt a).parks q = true ∨ X.qSt q ≠ some .waitingForUnpark) : ParkInv X := by
  refine ⟨?_⟩
  intro q hp
  rcases hq q hp with h1 | h1
  · obtain ⟨b, h2⟩ := h.park q h1
    by_cases hba : b = a
    · subst hba
      rcases hmine q h2 with h3 | h3
      · exact ⟨b, h3⟩
      · exact absurd hp h3
    · exact ⟨b, hoth b hba q h2⟩
  · exact ⟨a, h1⟩

/-! Only `run_one_job_now` writes `WaitingForUnpark`, and it then parks. -/

theorem QState.schedules_wfu {st st' : QState} (h : st.schedules st' = true) (hp : st' = .waitingForUnpark) : st = .waitingForUnpark := by
  cases st <;> simp_all [QState.schedules]
theorem QState.wakes_wfu {st st' : QState} (h : st.wakes st' = true) (hp : st' = .waitingForUnpark) : st = .waitingForUnpark := by
  cases st <;> simp_all [QState.wakes]

theorem syncNoPanicDecide_wfu {st : QState} {e : Bool} (h : (syncNoPanicDecide st e).1 = .waitingForUnpark) : st = .waitingForUnpark :=
  entry_eq (syncNoPanicDecide_entry st e) nofun h
theorem wakeQueue_wfu {st : QState} (h : (wakeQueue st).1 = .waitingForUnpark) : st = .waitingForUnpark :=
  QState.wakes_wfu (wakeQueue_wakes st) h
theorem drainPending_wfu {st : QState} (h : (drainPending st).1 = .waitingForUnpark) : st = .waitingForUnpark := by
  cases st <;> simp_all [drainPending]
theorem drainExit_wfu {st : QState} {e : Bool} (h : (drainExit st e).1 = .waitingForUnpark) : st = .waitingForUnpark := by
  cases st <;> cases e <;> simp_all [drainExit]
theorem runOnePending_wfu {st : QState} (h : (runOnePending st).1 = .waitingForUnpark) : st = .waitingForUnpark ∨ (runOnePending st).2 = .park := by
  cases st <;> simp_all [runOnePending]
theorem parkCheck_leaves {st : QState} (h : parkCheck st ≠ .park) : st ≠ .waitingForUnpark := by
  intro e; subst e; simp [parkCheck] at h

/-- a step that writes no state word: a mover in the park loop stays there, or has seen that the queue is no longer parked -/
theorem ParkInv.frame {s X : State} {a : Nat} (h : ParkInv s) (hoth : ParksKept s X a) (hq : ∀ q, X.qSt q = s.qSt q)
    (hmine : ∀ q, (s.pcAt a).parks q = true → (X.pcAt a).parks q = true ∨ s.qSt q ≠ some .waitingForUnpark) : ParkInv X :=
  h.step hoth (fun q hp => .inl (hq q ▸ hp)) (fun q hp => (hmine q hp).imp id (hq q ▸ ·))

theorem ParkInv.write {s X : State} {a q0 : Nat} {v v' : JobQ} {pc : Pc} (h : ParkInv s) (hoth : ParksKept s X a) (hsrc : s.pcAt a = pc)
    (hmine : pc.parks = fun _ => false) (hv : s.qs[q0]? = some v) (hqs : X.qs = s.qs.set q0 v')
    (htab : v'.state = .waitingForUnpark → v.state = .waitingForUnpark ∨ (X.pcAt a).parks q0 = true) : ParkInv X := by
  refine h.step hoth (fun q hp => ?_) (fun q hp => by rw [hsrc, hmine] at hp; cases hp)
  rw [qSt_of_set hv hqs] at hp
  split at hp
  · next e => subst e; exact (htab (Option.some.inj hp)).imp (fun e => by rw [qSt_of hv, e]) id
  · exact .inl hp

/-! Most rules' post-state is `Y.goto a pc'`, with a mover outside the park loop and `Y` having the state words of `s`, or all but
one, by computation (`rfl`). -/

section
variable {s Y : State} {a : Nat} {pc pc' : Pc} (h : ParkInv s) (hoth : ParksKept s (Y.goto a pc') a) (hsrc : s.pcAt a = pc)
  (hmine : pc.parks = fun _ => false)
include h hoth hsrc hmine

theorem ParkInv.goto (hq : ∀ q, Y.qSt q = s.qSt q) : ParkInv (Y.goto a pc') :=
  h.frame hoth (fun q => (qSt_goto _ _ _ q).trans (hq q)) (fun q hp => by rw [hsrc, hmine] at hp; cases hp)

theorem ParkInv.table {q0 : Nat} {v v' : JobQ} (hv : s.qs[q0]? = some v) (hqs : Y.qs = s.qs.set q0 v')
    (htab : v'.state = .waitingForUnpark → v.state = .waitingForUnpark) : ParkInv (Y.goto a pc') :=
  h.write hoth hsrc hmine hv ((qs_goto _ _ _).trans hqs) fun hp => .inl (htab hp)

end

theorem Step.parkInv {s s' : State} {a : Nat} {act : Act} (h : ParkInv s) (ha : s.acts[a]? = some act) (hst : Step s a act s') :
    ParkInv s' := by
  have hlt := hst.lt_acts ha
  have hsrc : ∀ {pc}, act.pc = pc → s.pcAt a = pc := (pcAt_of ha).trans
  have hoth : ParksKept s s' a :=
    fun b hb q => hst.pcAt_ne_of hb (P := fun pc => pc.parks q = true) Bool.false_ne_true
  -- a caller whose check says the queue is not parked leaves the loop
  have leaves : ∀ {q j k}, act.pc = .rjParkCheck q j k → parkCheck (s.qState q) ≠ .park →
      ∀ q', (s.pcAt a).parks q' = true → s.qSt q' ≠ some .waitingForUnpark := fun hpc hne q' hp hq' => by
    rw [hsrc hpc] at hp; cases eq_of_beq hp
    exact parkCheck_leaves hne (qState_of_qSt hq')
  cases hst
  -- the caller parks its queue and enters the park loop
  case rjPendingPark hpc hv _ =>
    exact h.write hoth (hsrc hpc) rfl hv (qs_goto _ _ _) fun _ => .inr (by rw [pcAt_goto_of_lt hlt]; exact beq_self_eq_true _)
  case rjPendingContinue hpc hv hr | rjPendingPanic hpc hv hr _ | rjPendingPanicNone hpc hv hr _ =>
    exact h.table hoth (hsrc hpc) rfl hv rfl fun hp => (runOnePending_wfu hp).resolve_right (by rw [hr]; decide)
  -- in the park loop
  case rjParkCheckContinue hpc hc | rjParkCheckPanicNone hpc hc _ =>
    exact h.frame hoth (qSt_goto _ _ _) (fun q hp => .inr (leaves hpc (by rw [hc]; decide) q hp))
  case rjParkCheckPanic hpc hc _ =>
    exact h.frame hoth (fun q => by simp) (fun q hp => .inr (leaves hpc (by rw [hc]; decide) q hp))
  case rjParkCheckPark hpc _ | rjPark hpc | rjParked hpc _ =>
    refine h.frame hoth (fun q => (qSt_goto _ _ _ q).trans (qSt_congr rfl q)) (fun q hp => .inl ?_)
    rw [hsrc hpc] at hp; rw [pcAt_goto_of_lt hlt]; exact hp
  -- no other table parks a queue for a caller
  case dsPushSchedule hpc hv _ | dsPushNone hpc hv _ | dsPushPanic hpc hv _ =>
    exact h.table hoth (hsrc hpc) rfl hv rfl (QState.schedules_wfu (desyncPush_schedules _))
  case rqCs hpc hv => exact h.table hoth (hsrc hpc) rfl hv rfl (QState.schedules_wfu (reschedule_schedules _ _))
  case wqCsResched hpc hv _ | wqCs hpc hv _ => exact h.table hoth (hsrc hpc) rfl hv rfl (QState.wakes_wfu (wakeQueue_wakes _))
  case wtCs hpc hv => exact h.table hoth (hsrc hpc) rfl hv rfl (QState.wakes_wfu (wakeThread_wakes _))
  case fdDropHandBack hpc _ hv _ _ => exact h.table hoth (hsrc hpc) rfl hv rfl (QState.wakes_wfu (futureDropDecide_wakes _ _))
  case syImmediate hpc hv _ | syDrain hpc hv _ | syBackground hpc hv _ | syPanic hpc hv _ _ _ =>
    exact h.table hoth (hsrc hpc) rfl hv rfl (entry_eq (syncDecide_entry _ _) nofun)
  case tsImmediate hpc hv _ | tsPanic hpc hv _ _ => exact h.table hoth (hsrc hpc) rfl hv rfl (entry_eq (trySyncDecide_entry _ _) nofun)
  case tsBusy hpc hv _ =>
    exact h.write hoth (hsrc hpc) rfl hv (qs_setAct _ _ _) fun hp => .inl (entry_eq (trySyncDecide_entry _ _) nofun hp)
  case sbClaimed hpc _ hv _ | sbClaim hpc _ hv _ => exact h.table hoth (hsrc hpc) rfl hv rfl (entry_eq (claim_entry _) nofun)
  case ptPopTake hpc _ hv _ | ptPopSkip hpc _ hv _ => exact h.table hoth (hsrc hpc) rfl hv rfl (entry_eq (nextToRun_entry _) nofun)
  case pfPollWait hpc _ _ hv _ | pfPollDrain hpc _ _ hv _ | pfPollPanic hpc _ _ hv _ =>
    exact h.table hoth (hsrc hpc) rfl hv rfl (entry_eq (pollDecide_entry _ _) nofun)
  case pdPendingLeave hpc hv _ | pdPending hpc hv _ => exact h.table hoth (hsrc hpc) rfl hv rfl drainPending_wfu
  case pdExitLeave hpc hv _ | pdExit hpc hv _ => exact h.table hoth (hsrc hpc) rfl hv rfl drainExit_wfu
  -- the owner leaves its queue idle, parked for the pool or waiting for its poller
  case siIdle hpc _ | sdIdle hpc | sbStealIdle hpc | dqSetWfw hpc | dqSetWfp hpc | dqIdle2 hpc | dqIdle hpc =>
    exact h.step hoth (fun q hp => .inl (qSt_of_left hp (qSt_congr rfl) nofun)) (fun q hp => by rw [hsrc hpc] at hp; cases hp)
  -- the record of a queue changes (waiters, job list), its word does not
  case sbReg hpc hv | sbPushIdle hpc hv _ | sbPush hpc hv _ => exact h.goto hoth (hsrc hpc) rfl (qSt_setQ_keep rfl hv rfl)
  case sbPrune hpc hv =>
    exact h.frame hoth (qSt_setQ_keep (qs_goto s a .ret) hv (by rfl))
      (fun q hp => by rw [hsrc hpc] at hp; cases hp)
  case rjDequeue hpc _ | rjDequeueNone hpc _ | pdDequeue hpc _ | pdDequeueNone hpc _ | dqDequeue hpc _ | dqDequeueNone hpc _ =>
    exact h.goto hoth (hsrc hpc) rfl (qSt_dequeue s _ a)
  -- a job is queued, a `woken` flag (the mover's own or a waiter's) or a gate is written
  case sdPush hpc | pdRequeue hpc | dqRequeue hpc | rqNotify hpc | sbWait hpc | sbWaiting hpc _ _ | jobDropNotify hpc _ _
      | jobStartFut hpc _ _ _ | sfRecvReady hpc _ _ =>
    exact h.goto hoth (hsrc hpc) rfl (fun q => by simp)
  -- the result is stored with the new program counter
  case pfPollReady hpc _ _ | pollReadySfSched hpc _ _ | pollPendingOnce hpc _ _ | sfPollQueue hpc _ _ | sfPollSched hpc _ _
      | sfPollCompleted hpc _ _ | sfBlockedOnce hpc _ | dqCheckReady hpc _ _ | dqCheck2Ready hpc _ _ | fsTakeReady hpc _ _ =>
    exact h.frame hoth (qSt_congr rfl) (fun q hp => by rw [hsrc hpc] at hp; cases hp)
  -- all other rules write no state word and start outside the park loop
  -- (`by`: elaborated once `‹_›` has found the rule's program counter; `eq_refl`: `rfl` would first try `Iff.rfl` and `HEq.rfl` in every goal)
  all_goals exact h.goto hoth (hsrc ‹_›) (by eq_refl) (qSt_congr rfl)

theorem parks_envPcRel (q : Nat) : EnvPcRel fun pc pc' => pc.parks q = true → pc'.parks q = true where
  refl _ := id
  body _ _ h := by cases h
  parked _ _ _ h := h
  pfBlocked _ h := by cases h
  sfBlocked _ h := by cases h
  ret h := by cases h
  entry _ h := by cases h

theorem EnvStep.parkInv {s s' : State} {l : Label} (h : ParkInv s) (he : EnvStep s l s') : ParkInv s' :=
  ⟨fun q hp => (h.park q (qSt_congr he.sameCore.qs q ▸ hp)).imp fun b hb => he.pcAt_rel (parks_envPcRel q) b hb⟩

theorem parkInv_initP (ps : List Bool) (ng max : Nat) : ParkInv (initStateP ps ng max) :=
  ⟨fun q hs => by rcases qSt_initP hs with h | h <;> cases h⟩

theorem parkInv_reachable {s : State} (hr : Reachable s) : ParkInv s :=
  hr.invariant parkInv_initP (fun _ h ha _ hst => hst.parkInv h ha) (fun _ h he => he.parkInv h)

end Desync
