/-
I_job is preserved by every internal step; with the well-formedness of caller continuations it holds in every reachable state;
C01 and C02 in the model.
-/
import DesyncModel.Inv.JobInv
import DesyncModel.Inv.HolderReach
import DesyncModel.Spec
import DesyncModel.Tables.Sync
import DesyncModel.Tables.TrySync

namespace Desync
open Gen

theorem Step.fullInv {s s' : State} {a : Nat} {act : Act} (hh : HolderInv s) (hw : WfInv s) (h : FullInv s)
    (ha : s.acts[a]? = some act) (hst : Step s a act s') : FullInv s' := by
  have hx := heldExcl_of hh hw h.job
  have hlt := hst.lt_acts ha
  have hpc : ∀ {pc : Pc}, act.pc = pc → s.pcAt a = pc := (pcAt_of ha).trans
  have hwa : ∀ {pc : Pc}, act.pc = pc → pc.callerOk = true := fun e => e ▸ pcAt_of ha ▸ hw a
  -- every activity runs the job it ran, if `a` does
  have hS : ∀ {pc pc' : Pc}, act.pc = pc → s'.pcAt a = pc' → pc'.runningQ = pc.runningQ → ∀ b, (s'.pcAt b).runningQ = (s.pcAt b).runningQ :=
    fun e e' h => hst.class_eq (fun _ => rfl) (by rw [hpc e, e', h])
  -- ... and every activity but `a` in any case
  have hR : ∀ {pc' : Pc} {r}, s'.pcAt a = pc' → pc'.runningQ = r → ∀ b, (s'.pcAt b).runningQ = if b = a then r else (s.pcAt b).runningQ :=
    fun e' h b => h ▸ e' ▸ hst.class_upd (C := Pc.runningQ) (fun _ => rfl) b
  cases hst
  case rjDequeue hpca hd | pdDequeue hpca hd | dqDequeue hpca hd =>
    exact h.dequeue_take hd (congrArg Pc.runningQ (hpc hpca)) (hR (pcAt_goto_of_lt hlt) rfl) (jobs_goto ..) (qs_goto ..)
  case rjDequeueNone hpca hd =>
    rw [dequeue_none hd] at hlt hS ⊢
    exact h.same (hS hpca (pcAt_goto_of_lt hlt) (plainFor_running (hwa hpca))) (jobs_goto ..) (congrArg _ (qs_goto ..))
  case pdDequeueNone hpca hd | dqDequeueNone hpca hd =>
    rw [dequeue_none hd] at hlt hS ⊢
    exact h.same (hS hpca (pcAt_goto_of_lt hlt) rfl) (jobs_goto ..) (congrArg _ (qs_goto ..))
  case pdRequeue q j hpca | dqRequeue j _ q hpca =>
    have hold : (s.pcAt a).runningQ = some (j, q) := congrArg Pc.runningQ (hpc hpca)
    obtain ⟨jb, hjb, -⟩ := h.job.running hold
    -- the queue exists: `a` owns its run right
    obtain ⟨-, v, hv⟩ := hh.mine (q := q) ha (by rw [hpca]; exact beq_self_eq_true q)
    exact h.requeue_front hx hold (hR (pcAt_goto_of_lt hlt) rfl) hjb hv (by simp [jobs_setJobPh_of (s := s.pushFront _ _) (by simpa using hjb)])
      (by simp [State.pushFront, hv])
  case jobDropBg hpca hjb _ _ | siIdle hpca hjb | rjParkCheckPanic hpca _ hjb =>
    exact h.retire (congrArg Pc.runningQ (hpc hpca)) (hR (pcAt_goto_of_lt hlt) rfl) hjb (by simp) (by simp)
  case rjPendingPanic hpca hv _ hjb =>
    exact h.retire (congrArg Pc.runningQ (hpc hpca)) (hR (pcAt_goto_of_lt hlt) rfl) hjb (jobs_goto ..) (by simp [map_set_keep hv])
  case jobDrop hpca hjb _ =>
    exact h.retire (congrArg Pc.runningQ (hpc hpca)) (hR (pcAt_goto_of_lt hlt) (ctxReady_running (hwa hpca))) hjb (jobs_goto ..) (congrArg _ (qs_goto ..))
  case jobDropNotify hpca _ _ => exact h.same (hS hpca (pcAt_goto_of_lt hlt) (ctxReady_running (hwa hpca))) (by simp) (by simp)
  case syImmediate v hpca hv himm =>
    exact h.newHeld hh hw (congrArg Pc.runningQ (hpc hpca)) (hR (pcAt_goto_of_lt hlt) rfl) hv ((syncDecide_immediate_iff _ _).mp himm)
      (jobs_goto ..) rfl rfl (by simp [map_set_keep hv])
  case tsImmediate v hpca hv himm =>
    exact h.newHeld hh hw (congrArg Pc.runningQ (hpc hpca)) (hR (pcAt_goto_of_lt hlt) rfl) hv ((trySync_immediate_iff _ _).mp himm)
      (jobs_goto ..) rfl rfl (by simp [map_set_keep hv])
  case dsPushSchedule hpca hv _ | dsPushNone hpca hv _ | dsPushPanic hpca hv _ | sbPushIdle hpca hv _ | sbPush hpca hv _ =>
    exact h.newQueued (hS hpca (pcAt_goto_of_lt hlt) rfl) hv (jobs_goto ..) (qs_goto ..) rfl
  case sdPush q b hpca =>
    -- the queue exists: the caller owns its run right
    obtain ⟨-, v, hv⟩ := hh.mine (q := q) ha (by rw [hpca]; exact beq_self_eq_true q)
    exact h.newQueued (hS hpca (pcAt_goto_of_lt hlt) rfl) hv (kind := .erasedDrain a b) (v' := { v with jobs := v.jobs ++ [s.jobs.length] })
      (by simp) (by simp [State.pushBack, hv]) rfl
  -- the runner of a job sets its `begun` flag
  case jobStartPlain | jobStartDrain | jobStartBg | jobStartSlotWake | jobStartSlot | jobStartSusp | jobAwaitAfter =>
    have hjb := ‹s.jobs[_]? = some _›
    exact h.setJob hx (hS (‹act.pc = _› :) (pcAt_goto_of_lt hlt) rfl) hjb (jobs_goto ..) (qs_goto ..) rfl rfl
      (fun _ => .inr ⟨a, h.job.held_of_running (congrArg Pc.runningQ (hpc (‹act.pc = _› :))) hjb⟩) id
  case jobStartFut hpca hjb _ _ =>
    exact h.setJob hx (hS hpca (pcAt_goto_of_lt hlt) rfl) hjb ((jobs_goto ..).trans (jobs_regGate ..)) ((qs_goto ..).trans (qs_regGate ..))
      rfl rfl (fun _ => .inr ⟨a, h.job.held_of_running (congrArg Pc.runningQ (hpc hpca)) hjb⟩) id
  -- ... its `ended` flag
  case jobBodyDoneDrain | jobBodyDoneAfter | jobBodyDone | jobEnd | jobSignalWake | jobSignal =>
    exact h.setJob hx (hS (‹act.pc = _› :) (pcAt_goto_of_lt hlt) rfl) (‹s.jobs[_]? = some _› :) (jobs_goto ..) (qs_goto ..) rfl rfl .inl
      (fun _ => rfl)
  -- ... or registers its waker
  case jobAwaitPending hpca hjb _ _ =>
    exact h.setJob hx (hS hpca (pcAt_goto_of_lt hlt) (runningQ_ctxPending ..)) hjb (jobs_goto ..) (qs_goto ..) rfl rfl .inl id
  case jobAwaitPendingSlot => exact h.same (hS (‹act.pc = _› :) (pcAt_goto_of_lt hlt) (runningQ_ctxPending ..)) (jobs_goto ..) (congrArg _ (qs_goto ..))
  -- a sender takes the waker a job has registered
  case openSendJobWake | openSendJob | resumeSendWake | resumeSend =>
    exact h.setJob hx (hS (‹act.pc = _› :) (pcAt_goto_of_lt hlt) rfl) (‹s.jobs[_]? = some _› :) (jobs_goto ..) (qs_goto ..) rfl rfl .inl id
  -- the job that `a` runs exists
  case rjPendingPanicNone hpca _ _ hnone | rjParkCheckPanicNone hpca _ hnone =>
    obtain ⟨jb, hjb, -⟩ := h.job.running (a := a) (congrArg Pc.runningQ (hpc hpca))
    cases hjb.symm.trans hnone
  -- a table changes the state of a queue, or its waiter list changes
  case rqCs | wqCsResched | wqCs | wtCs | syDrain | syBackground | syPanic | tsPanic | sbReg | sbClaimed | sbClaim | rjPendingPark | rjPendingContinue
      | ptPopTake | ptPopSkip | pdPendingLeave | pdPending | pdExitLeave | pdExit | pfPollWait | pfPollDrain | pfPollPanic | fdDropHandBack =>
    exact h.same (hS (‹act.pc = _› :) (pcAt_goto_of_lt hlt) rfl) (jobs_goto ..) (by simp [map_set_keep ‹s.qs[_]? = some _›])
  case tsBusy hv _ => exact h.same (hS (‹act.pc = _› :) (pcAt_setAct_of_lt hlt) rfl) rfl (by simp [map_set_keep hv])
  case sbPrune hv => exact h.same (hS (‹act.pc = _› :) ((pcAt_setQ ..).trans (pcAt_goto_of_lt hlt)) rfl) (jobs_goto ..) (by simp [map_set_keep hv])
  case pfPollReady | pollReadySfSched | pollPendingOnce | sfPollQueue | sfPollSched | sfPollCompleted | sfBlockedOnce | dqCheckReady | dqCheck2Ready
      | fsTakeReady =>
    exact h.same (hS (‹act.pc = _› :) (pcAt_setAct_of_lt hlt) rfl) rfl rfl
  -- Every other rule leaves the job table and the queues' lists alone, and `a` runs the job it ran.  Where the post-state is built with
  -- `setQState`, `setWoken` or `notify`, which match on the state, its fields are those of `s` by `simp`, elsewhere by unfolding.
  case dqIdle | dqIdle2 | dqSetWfp | dqSetWfw | rqNotify | sbStealIdle | sbWait | sbWaiting | sdIdle | sfRecvReady =>
    exact h.same (hS (‹act.pc = _› :) (pcAt_goto_of_lt hlt) rfl) (by simp) (by simp)
  all_goals exact h.same (hS (‹act.pc = _› :) (pcAt_goto_of_lt hlt) rfl) (jobs_goto ..) (congrArg _ (qs_goto ..))

theorem fullInv_stepAct {s s' : State} {a : Nat} {o : Obs} (hh : HolderInv s) (hw : WfInv s) (h : FullInv s)
    (hs : stepAct s a = some (s', o)) : FullInv s' := by
  obtain ⟨act, ha, -, hst⟩ := Step.of_stepAct hs
  exact hst.fullInv hh hw h ha

theorem EnvStep.fullInv {s s' : State} {l : Label} (h : FullInv s) (he : EnvStep s l s') : FullInv s' :=
  h.same (he.pcAt_blind (C := Pc.runningQ)
      { refl := fun _ => rfl, body := fun _ _ => rfl, parked := fun _ _ _ => rfl, pfBlocked := fun _ => rfl, sfBlocked := fun _ => rfl, ret := rfl
        entry := fun hst => by cases hst <;> rfl })
    he.sameCore.jobs (by rw [he.sameCore.qs])

theorem fullInv_reachable {s : State} (hr : Reachable s) : WfInv s ∧ FullInv s :=
  Reachable.invariant (P := fun s => WfInv s ∧ FullInv s) (fun ps ng max => ⟨wfInv_initP ps ng max, fullInv_initP ps ng max⟩)
    (fun hr h ha _ hst => ⟨hst.wfInv h.1 ha, hst.fullInv (holderInv_reachable hr) h.1 h.2 ha⟩)
    (fun _ h he => ⟨he.wfInv h.1, he.fullInv h.2⟩) hr

theorem held_job_owner_holds {s : State} (hr : Reachable s) {j a : Nat} {b : Job} (hb : s.jobs[j]? = some b) (hph : b.ph = .held a) :
    (s.pcAt a).holds b.q = true ∧ s.holder[b.q]? = some (some a) := by
  obtain ⟨hw, hf⟩ := fullInv_reachable hr
  have hrun := hf.run2 a j b.q (by rw [jobPQ_of hb, hph])
  have hholds := holds_of_runningQ (hw a) hrun
  exact ⟨hholds, ((holderInv_reachable hr).iff a b.q).mp hholds⟩

theorem running_jobs_exclusive {s : State} (hr : Reachable s) {j1 j2 a1 a2 : Nat} {b1 b2 : Job}
    (h1 : s.jobs[j1]? = some b1) (h2 : s.jobs[j2]? = some b2) (hq : b1.q = b2.q)
    (hp1 : b1.ph = .held a1) (hp2 : b2.ph = .held a2) : j1 = j2 := by
  obtain ⟨hw, hf⟩ := fullInv_reachable hr
  exact heldExcl_of (holderInv_reachable hr) hw hf.job j1 j2 a1 a2 b1.q (by rw [jobPQ_of h1, hp1]) (by rw [jobPQ_of h2, hp2, hq])

/-- **C01 in the model: at most one operation per object is open** — between the invocation of its closure and its
completion or destruction, including every suspension of a future operation at an await — in every reachable state:
any number of objects, threads and calls, any pool size, any interleaving. -/
theorem exclusive_reachable {s : State} (hr : Reachable s) : Exclusive s := by
  obtain ⟨hw, hf⟩ := fullInv_reachable hr
  intro j1 j2 b1 b2 h1 h2 hq ho1 ho2
  exact hf.job.open_unique (heldExcl_of (holderInv_reachable hr) hw hf.job) (jobPQ_of h1) (by rw [jobPQ_of h2, hq])
    (by rw [jobOpen_of h1]; exact ho1) (by rw [jobOpen_of h2]; exact ho2)

theorem jobInv_reachable {s : State} (hr : Reachable s) : WfInv s ∧ JobInv s :=
  ⟨(fullInv_reachable hr).1, (fullInv_reachable hr).2.job⟩

/-- **C02 in the model: operations run in the order in which their scheduling calls were made.**  Job ids are allocated
inside the scheduling call, under the queue lock; in every reachable state an operation has begun only if every operation
accepted earlier on the same object has ended. -/
theorem inOrder_reachable {s : State} (hr : Reachable s) : InOrder s := by
  obtain ⟨_, hf⟩ := fullInv_reachable hr
  intro j1 j2 b1 b2 h1 h2 hq hlt hb
  have := hf.ord.order j1 j2 b1.q b1.ph b2.ph hlt (jobPQ_of h1) (by rw [jobPQ_of h2, hq]) (by rw [jobB_of h2]; exact hb)
  rw [jobE_of h1] at this
  exact this

theorem FullInv.jobAwait_q {s : State} (hf : FullInv s) {a : Nat} {act : Act} (ha : s.acts[a]? = some act) {j : Nat} {c : Ctx} {k : Pc}
    (hpc : act.pc = .jobAwait j c k) {jb : Job} (hjb : s.jobs[j]? = some jb) : jb.q = c.q := by
  have hpq := hf.run1 a j c.q (by rw [pcAt_of ha, hpc]; rfl)
  rw [jobPQ_of hjb] at hpq
  exact (Prod.mk.inj (Option.some.inj hpq)).2

end Desync
