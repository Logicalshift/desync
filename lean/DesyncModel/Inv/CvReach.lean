/-
The condition-variable invariant is kept by every step — the rules of the protocol one by one, every other rule by
`CvInv.goto_neutral` — and by the environment.
-/
import DesyncModel.Inv.Cv

namespace Desync
open Gen

theorem regGate_cv (s : State) (gate : Option Nat) (op : Nat) :
    (s.regGate gate op).acts = s.acts ∧ (s.regGate gate op).readyLock = s.readyLock ∧ (s.regGate gate op).ready = s.ready := by
  rcases s.regGate_cases gate op with e | ⟨g, gt, -, e⟩ <;> rw [e] <;> exact ⟨rfl, rfl, rfl⟩

/-- The owner leaves its queue.  Stated of the whole post-state: the lemmas about `setQState` apply to it only after `setHolder` is
unfolded, which is slow to check. -/
theorem leave_cv (Z : State) (q : Nat) (st : QState) :
    ((Z.setQState q st).setHolder q none).acts = Z.acts ∧ ((Z.setQState q st).setHolder q none).readyLock = Z.readyLock ∧
    ((Z.setQState q st).setHolder q none).ready = Z.ready :=
  ⟨acts_setQState Z q st, readyLock_setQState Z q st, ready_setQState Z q st⟩

theorem Step.cvInv {s s' : State} {a : Nat} {act : Act} (h : CvInv s) (ha : s.acts[a]? = some act) (hst : Step s a act s') : CvInv s' := by
  have hm := hst.jobMono
  have hlt := lt_of_getElem?_some ha
  have hlt' := hst.lt_acts ha
  have hpca := pcAt_of ha
  -- what the invariant says of the mover, read at the pc that a rule's first premise gives it
  have wf : ∀ {pc}, act.pc = pc → pc.cvWf = true := fun e => e ▸ hpca ▸ h.wf a
  have own : ∀ {pc}, act.pc = pc → pc.sbOwn = true → (a, a) ∈ s.readyLock := fun e hb => h.rl a (by rw [hpca, e]; exact hb)
  have held : ∀ {pc w}, act.pc = pc → pc.notifies = some w → (w, a) ∈ s.readyLock := fun e hb => h.rl2 a _ (by rw [hpca, e]; exact hb)
  have nr : ∀ {pc}, act.pc = pc → pc.sbNr = true → s.isReady a = false := fun e hb => h.nr a (by rw [hpca, e]; exact hb)
  cases hst
  -- reschedule_queue signals a waiter: take its lock, notify, release
  -- (`(wf hpc :)`: the new pc is well formed because the old one is, both say that the continuation is quiet)
  case rqNotifyAcq hpc hfree =>
    exact h.goto_lock hm ha hpc rfl rfl rfl (.inr (.inl ⟨_, not_held_of hfree, rfl⟩))
      ⟨(wf hpc :), nofun, fun _ e => by cases e; exact List.mem_cons_self, nofun, nofun⟩
  case rqNotify q w rest r k hpc =>
    exact h.goto hm ha hpc hlt' (pcAt_notify s w) (fun _ _ => isWoken_notify_mono) (.inl (readyLock_notify s w))
      (fun b _ hx => .inl (by simpa using hx)) nofun
      ⟨(wf hpc :), nofun, fun _ e => by cases e; rw [readyLock_notify]; exact held hpc rfl, nofun, nofun⟩
  case rqNotifyRel hpc =>
    exact h.goto_lock hm ha hpc rfl rfl rfl (.inr (.inr ⟨_, held hpc rfl, rfl⟩)) ⟨(wf hpc :), nofun, nofun, nofun, nofun⟩
  -- the caller: lock, test, claim the queue or not, then wait or steal
  case sbLockReady hpc hfree =>
    exact h.goto_lock hm ha hpc rfl rfl rfl (.inr (.inl ⟨a, not_held_of hfree, rfl⟩)) ⟨rfl, fun _ => List.mem_cons_self, nofun, nofun, nofun⟩
  case sbTestReady hpc _ | sbClaimRelTrue hpc =>
    exact h.goto_lock hm ha hpc rfl rfl rfl (.inl rfl) ⟨rfl, fun _ => own hpc rfl, nofun, nofun, nofun⟩
  case sbTest hpc hr =>
    exact h.goto_lock hm ha hpc rfl rfl rfl (.inl rfl) ⟨rfl, fun _ => own hpc rfl, nofun, fun _ => hr, nofun⟩
  case sbClaimed hpc _ _ _ | sbClaim hpc _ _ _ | sbClaimRelFalse hpc =>
    exact h.goto_lock hm ha hpc rfl rfl rfl (.inl rfl) ⟨rfl, fun _ => own hpc rfl, nofun, fun _ => nr hpc rfl, nofun⟩
  case sbRelReady hpc | sbDone hpc =>
    exact h.goto_lock hm ha hpc rfl rfl rfl (.inr (.inr ⟨a, own hpc rfl, rfl⟩)) ⟨rfl, nofun, nofun, nofun, nofun⟩
  case sbWait hpc =>
    -- it lets go of the lock and sleeps having seen "not ready" under it
    exact h.goto hm ha hpc hlt' (fun b => pcAt_setWoken _ a false b) (fun b hb hx => by rwa [isWoken_setWoken_ne _ hb])
      (.inr (.inr ⟨a, own hpc rfl, readyLock_setWoken _ a false⟩)) (fun b _ hx => .inl (by simpa using hx)) nofun
      ⟨rfl, nofun, nofun, nofun, fun _ => .inr (by simpa using nr hpc rfl)⟩
  case sbWaiting hpc _ hfree =>
    exact h.goto hm ha hpc hlt' (fun b => pcAt_setWoken _ a false b) (fun b hb hx => by rwa [isWoken_setWoken_ne _ hb])
      (.inr (.inl ⟨a, not_held_of hfree, readyLock_setWoken _ a false⟩)) (fun b _ hx => .inl (by simpa using hx)) nofun
      ⟨rfl, fun _ => by rw [readyLock_setWoken]; exact List.mem_cons_self, nofun, nofun, nofun⟩
  -- the runner drops the caller's job: flag up (the caller's lock is free), then notify
  case jobDropBg j c k jb o b hpc hjb hk hfree =>
    refine h.goto hm ha hpc hlt' (fun _ => rfl) (fun _ _ => id) (.inl rfl) (fun b' _ hx => ?_) nofun ⟨(wf hpc :), nofun, nofun, nofun, nofun⟩
    by_cases hbo : b' = o
    · exact .inr ⟨hbo ▸ not_held_of hfree, j, rfl, hbo ▸ jobOwner_of hjb hk⟩
    · exact .inl (by simpa [State.isReady, hbo] using hx)
  case jobDropNotify j c k jb o b hpc hjb hk =>
    refine h.goto hm ha hpc hlt' (pcAt_notify s o) (fun _ _ => isWoken_notify_mono) (.inl (readyLock_notify s o))
      (fun b _ hx => .inl (by simpa using hx)) (fun j' b' e ho _ hb' => .inl ?_) (.quiet ((cvQuiet_ctxReady k c).trans (wf hpc)))
    cases e
    cases (jobOwner_of hjb hk).symm.trans ho
    exact isWoken_notify_self hb'
  -- From here on nobody enters or leaves the protocol.  The old pc has no head of the protocol, so `cvWf` and `cvQuiet` unfold to the
  -- same condition on its continuation, and that condition is also what makes the new pc quiet: `⟨hw, hw⟩`.
  case jobDrop c k _ hpc _ _ =>
    exact h.goto_neutral hm ha hpc (fun hw => ⟨hw, (cvQuiet_ctxReady k c).trans hw⟩) rfl rfl rfl
  case jobAwaitPendingSlot j c k jb u r sf hpc _ _ _ _ | jobAwaitPending j c k jb hpc _ _ _ =>
    exact h.goto_neutral hm ha hpc (fun hw => ⟨hw, (cvQuiet_ctxPending j k c).trans hw⟩) rfl rfl rfl
  case stSpawn hpc _ _ =>
    -- first the new pool thread appears, then `a` moves on
    refine CvInv.goto_neutral ?_ (JobMono.same (jobs_goto _ _ _)) ?_ hpc (fun hw => ⟨hw, hw⟩) rfl rfl rfl
    · exact h.append rfl rfl rfl rfl rfl
    · exact (List.getElem?_append_left hlt).trans ha
  case sbPrune hpc _ =>
    exact (h.goto_neutral (JobMono.same (jobs_goto s a .ret)) ha hpc (fun hw => ⟨hw, hw⟩) rfl rfl rfl).view
      (fun _ => .inl rfl) (fun _ _ => rfl) rfl rfl fun _ _ => id
  case tsBusy hpc _ _ | pfPollReady hpc _ _ | pollReadySfSched hpc _ _ | pollPendingOnce hpc _ _ | sfPollQueue hpc _ _
      | sfPollSched hpc _ _ | sfPollCompleted hpc _ _ | sfBlockedOnce hpc _ | dqCheckReady hpc _ _ | dqCheck2Ready hpc _ _
      | fsTakeReady hpc _ _ =>
    exact h.setAct_neutral hm ha hpc (fun hw => ⟨hw, hw⟩) rfl rfl rfl rfl
  case rjDequeue hpc _ | rjDequeueNone hpc _ | pdDequeue hpc _ | pdDequeueNone hpc _ | dqDequeue hpc _ | dqDequeueNone hpc _ =>
    exact h.goto_neutral hm ha hpc (fun hw => ⟨hw, hw⟩) (dequeue_acts _ _ _) (readyLock_dequeue _ _ _) (ready_dequeue _ _ _)
  case jobStartFut hpc _ _ _ | sfRecvReady hpc _ _ =>
    exact h.goto_neutral hm ha hpc (fun hw => ⟨hw, hw⟩) (regGate_cv _ _ _).1 (regGate_cv _ _ _).2.1 (regGate_cv _ _ _).2.2
  case siIdle hpc _ | sdIdle hpc | sbStealIdle hpc | dqSetWfw hpc | dqSetWfp hpc | dqIdle2 hpc | dqIdle hpc =>
    exact h.goto_neutral hm ha hpc (fun hw => ⟨hw, hw⟩) (leave_cv _ _ _).1 (leave_cv _ _ _).2.1 (leave_cv _ _ _).2.2
  case sdPush hpc =>
    exact h.goto_neutral hm ha hpc (fun hw => ⟨hw, hw⟩) (acts_pushBack _ _ _) (readyLock_pushBack _ _ _) (ready_pushBack _ _ _)
  case pdRequeue hpc | dqRequeue hpc =>
    exact h.goto_neutral hm ha hpc (fun hw => ⟨hw, hw⟩) ((acts_setJobPh _ _ _).trans (acts_pushFront _ _ _))
      ((readyLock_setJobPh _ _ _).trans (readyLock_pushFront _ _ _)) ((ready_setJobPh _ _ _).trans (ready_pushFront _ _ _))
  -- Every other rule goes on from `s` with some fields updated: the activities, the locks and the flags are those of `s` by
  -- reduction.
  all_goals
    have hpc := ‹act.pc = _›
    exact h.goto_neutral hm ha hpc (fun hw => ⟨hw, hw⟩) rfl rfl rfl

theorem Starts.cvQuiet {s s0 : State} {c : Call} {pc : Pc} {once : Bool} (h : Starts s c s0 pc once) : pc.cvQuiet = true := by
  cases h <;> rfl

theorem CvInv.setChild {s : State} (h : CvInv s) (p c : Option Nat) : CvInv (s.setChild p c) :=
  h.of_sameCore (.setChild s p c) (pcAt_setChild s p c) (isWoken_setChild s p c)

theorem EnvStep.cvInv {s s' : State} {l : Label} (h : CvInv s) (he : EnvStep s l s') : CvInv s' := by
  cases he
  case invoke t parent c s0 pc once _ hst =>
    have h0 : CvInv s0 := h.of_sameCore hst.sameCore.1 (fun b => by simp only [State.pcAt, hst.sameCore.2])
      (fun b => by simp only [State.isWoken, hst.sameCore.2])
    rw [addAct_fst]
    apply CvInv.setChild
    exact h0.append (n := newAct t parent pc once) rfl hst.cvQuiet rfl rfl rfl
  case ret a act ha hpc =>
    apply CvInv.setChild
    exact h.setAct_neutral (JobMono.refl s) ha hpc (fun hw => ⟨hw, hw⟩) rfl rfl rfl rfl
  all_goals
    have hpc := ‹Act.pc _ = _›
    exact h.goto_neutral (JobMono.same (jobs_goto _ _ _)) ‹_ = some _› hpc (fun hw => ⟨hw, hw⟩) rfl rfl rfl

theorem cvInv_of_empty (s : State) (ha : s.acts = []) (hrl : s.readyLock = []) : CvInv s := by
  have hpc := pcAt_of_nil ha
  refine ⟨fun b => ?_, by rw [hrl]; nofun, fun b hb => ?_, fun b w hb => ?_, fun b hb => ?_, fun b hb => ?_⟩
  · rw [hpc]; rfl
  all_goals rw [hpc] at hb; cases hb

theorem cvInv_reachable {s : State} (hr : Reachable s) : CvInv s :=
  Reachable.invariant (P := CvInv) (fun _ _ _ => cvInv_of_empty _ rfl rfl)
    (fun _ h ha _ hst => hst.cvInv h ha) (fun _ h he => he.cvInv h) hr

end Desync
