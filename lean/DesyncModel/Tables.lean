/-
All table obligations: facts about the generated decision tables (Generated.lean, rewritten from /repo/src on every run)
that the proofs use.  A harmless rewrite of a Rust `match` yields an extensionally equal Lean table and every proof still
closes; a harmful one fails at a theorem whose name says what was lost.  The obligations are split by topic
(Tables/*.lean) so that a property's proof cone contains only the tables the property rests on.
-/
import DesyncModel.Tables.Panic
import DesyncModel.Tables.Sync
import DesyncModel.Tables.TrySync
import DesyncModel.Tables.Claim
import DesyncModel.Tables.Push
import DesyncModel.Tables.Wake
import DesyncModel.Tables.Pool
import DesyncModel.Tables.FutureDrop
