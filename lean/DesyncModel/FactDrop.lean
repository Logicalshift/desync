/- A structural fact read from /repo/src by the translator (Generated.lean), kept in its own module so that only the properties that rely on it depend on it. -/
import DesyncModel.Types
import DesyncModel.Generated

namespace Desync
open Gen

theorem drop_frees_through_sync : dropUses = ["sync", "sync_no_panic"] := rfl

/-- `Desync::drop` never releases the boxed value directly: every `Box::from_raw` sits inside the closure of a job it schedules on
the object's own queue (which is what the model's `Body.free` is) -/
theorem drop_frees_only_inside_its_job : dropFreesOutsideJob = 0 := rfl

end Desync
