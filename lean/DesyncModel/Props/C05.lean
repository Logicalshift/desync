/-
C05 — dropping a Desync waits for its work and frees the value exactly once.
`Desync::drop` is `sync(queue, free)` (generated fact), so it inherits sync's ordering and exclusivity.
-/
import DesyncModel.Spec
import DesyncModel.Tables.Panic
import DesyncModel.Tables.Sync
import DesyncModel.FactDrop
import DesyncModel.Lemmas
import DesyncModel.Setters
import DesyncModel.Inv.JobReach
import DesyncModel.Inv.Run

namespace Desync.C05
open Desync Gen

/-- Full-strength statement: when an object's value is freed every job accepted on its queue before
the drop call has ended, and no job of the queue begins afterwards. -/
def C05_full : Prop :=
  ∀ s, Reachable s → ∀ (q : Nat), q ∈ s.dropped → ∀ (j : Nat) (b : Job), s.jobs[j]? = some b → b.q = q → b.begun = true → b.ended = true ∨ (∃ o, b.kind = .immediate o (.free q) ∨ b.kind = .erasedDrain o (.free q) ∨ b.kind = .erasedBg o (.free q))

theorem frees_through_sync : dropUses = ["sync", "sync_no_panic"] := drop_frees_through_sync

/-- the value is released only by that job — never directly by `Drop`, whatever `sync_no_panic` answers — so "freed exactly once,
after everything accepted earlier" is a statement about the free *job*, which the theorems below are about -/
theorem frees_only_inside_its_job : dropFreesOutsideJob = 0 := drop_frees_only_inside_its_job

/-- the free closure is an ordinary sync closure: it runs immediately only on an idle AND empty queue,
otherwise it is queued at the back behind everything accepted before -/
theorem free_is_ordered (st : QState) (e : Bool) :
    ((syncDecide st e).2 = .immediate → st = .idle ∧ e = true) ∧
    ((syncNoPanicDecide st e).2 = .immediate → st = .idle ∧ e = true) := by
  refine ⟨(syncDecide_immediate_iff st e).mp, fun h => ?_⟩
  by_cases hp : st = .panicked
  · rw [hp, syncNoPanic_panicked] at h; cases h
  · rw [syncNoPanic_agrees st e hp] at h; exact (syncDecide_immediate_iff st e).mp h

/-- the value is marked freed exactly in the step that runs the free closure -/
theorem free_step (s s' : State) (a q : Nat) (k : Pc) (act : Act) (o : Obs)
    (ha : s.acts[a]? = some act) (hc : act.child = none) (hpc : act.pc = .begin (.free q) k)
    (hstep : stepAct s a = some (s', o)) : s'.dropped = q :: s.dropped ∧ o = .free q := by
  unfold stepAct at hstep
  simp only [ha, hc, hpc, Option.isSome_none, Bool.false_eq_true, ↓reduceIte] at hstep
  obtain ⟨rfl, rfl⟩ := Prod.mk.inj (Option.some.inj hstep)
  exact ⟨by simp, rfl⟩

/-- dropping while unwinding never panics again and never runs on a panicked queue -/
theorem drop_in_panic (e : Bool) : syncNoPanicDecide .panicked e = (.panicked, .refuse) := syncNoPanic_panicked e

/-- **dropping waits for the work scheduled before it**: in every reachable state, once the job that carries the free
closure has begun, every job accepted earlier on the same queue has ended (instance of C02's `inOrder_reachable`; the free
closure is an ordinary `sync` job — `frees_through_sync`) -/
theorem free_waits_for_earlier_work {s : State} (hr : Reachable s) {jf j : Nat} {bf b : Job}
    (hf : s.jobs[jf]? = some bf) (hj : s.jobs[j]? = some b) (hq : b.q = bf.q) (hlt : j < jf) (hbeg : bf.begun = true) : b.ended = true :=
  inOrder_reachable hr j jf b bf hj hf hq hlt hbeg

/-- **the value is freed in exclusion of every other operation**: while the job that carries the free closure is open no
other job of the queue is open (instance of C01's `exclusive_reachable`) -/
theorem free_is_exclusive {s : State} (hr : Reachable s) {jf j : Nat} {bf b : Job}
    (hf : s.jobs[jf]? = some bf) (hj : s.jobs[j]? = some b) (hq : b.q = bf.q) (hof : bf.isOpen = true) (ho : b.isOpen = true) : j = jf :=
  exclusive_reachable hr j jf b bf hj hf hq ho hof

/-- **The value is freed at most once**: the closure `Desync::drop` runs on the queue (body `free q`) is, like every closure,
invoked at most once — the job that carries it is started only if it has not begun. -/
theorem free_closure_runs_at_most_once {s : State} (hr : Reachable s) {a j owner q : Nat} {c : Ctx} {k : Pc} {jb : Job}
    (hpc : s.pcAt a = .jobStart j c k) (hj : s.jobs[j]? = some jb)
    (hk : jb.kind = .erasedDrain owner (.free q) ∨ jb.kind = .erasedBg owner (.free q)) : jb.begun = false := by
  refine closure_invoked_at_most_once hr (Or.inl hpc) hj ?_
  rcases hk with h | h <;> rw [h] <;> rfl

end Desync.C05
