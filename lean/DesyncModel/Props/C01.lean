/-
C01 — operations on one Desync never overlap, even across awaits.
Full statement: `C01_full`, proved as `C01_holds`.
-/
import DesyncModel.Spec
import DesyncModel.Tables.Sync
import DesyncModel.Tables.TrySync
import DesyncModel.Tables.Claim
import DesyncModel.FactFifo
import DesyncModel.FactSyncFuture
import DesyncModel.Inv.Holder
import DesyncModel.Inv.HolderReach
import DesyncModel.Inv.JobReach

namespace Desync.C01
open Desync Gen

/-- Full-strength statement: in every reachable state of the model at most one operation per queue is open. -/
def C01_full : Prop := ∀ s, Reachable s → Exclusive s

/-- Every table that can hand out the run right does so only from `idle`/`pending` (or, for a pool
thread and the owning future, from `waitingForPoll`), and marks the queue `running` in the same
critical section; in every other state the table leaves the state alone. -/
theorem run_right_only_from_unowned (st : QState) (e : Bool) (self : Nat) :
    (((syncDecide st e).2 = .immediate ∨ (syncDecide st e).2 = .drain) → st.claimable = true ∧ (syncDecide st e).1 = .running) ∧
    ((trySyncDecide st e).2 = .immediate → st = .idle ∧ e = true ∧ (trySyncDecide st e).1 = .running) ∧
    ((claim st).2 = true → st.claimable = true ∧ (claim st).1 = .running) ∧
    ((nextToRun st).2 = true → (st = .pending ∨ ∃ f, st = .waitingForPoll f) ∧ (nextToRun st).1 = .running) ∧
    ((pollDecide self st).2.1 = .drain → (st.claimable = true ∨ st = .waitingForPoll self) ∧ (pollDecide self st).1 = .running) := by
  refine ⟨syncDecide_claims st e, ?_, (claim_spec st).1, (nextToRun_spec st).1, ?_⟩
  · intro h
    have := (trySync_immediate_iff st e).mp h
    exact ⟨this.1, this.2, trySync_immediate_running st e h⟩
  · intro h
    have := (pollDecide_spec self st).1 h
    exact ⟨this.1, this.2.1⟩

/-- A queue whose state says somebody owns it (`running`, `awokenWhileRunning`, `waitingForUnpark`)
is never claimed by a second runner: no table grants the run right from these states. -/
theorem held_state_never_claimed (st : QState) (e : Bool) (self : Nat) (h : st.held = true) :
    (syncDecide st e).2 = .background ∧ (trySyncDecide st e).2 = .busy ∧ (claim st).2 = false ∧
    (nextToRun st).2 = false ∧ (pollDecide self st).2.1 = .wait := by
  cases st
  case running | awokenWhileRunning | waitingForUnpark => cases e <;> exact ⟨rfl, rfl, rfl, rfl, rfl⟩
  all_goals cases h

/-- Jobs are taken only from the front and never while the queue is parked on a suspended job, so a
suspended future operation (requeued at the front) is the next job any runner sees. -/
theorem parked_queue_yields_no_job (st : QState) :
    dequeueAllowed st = false ↔ (st = .waitingForWake ∨ st = .waitingForUnpark ∨ ∃ f, st = .waitingForPoll f) :=
  dequeue_refuses_parked st

theorem fifo_operations_only : queueOps = queueOpsExpected := queueOps_only_fifo

/-- a cancelled future_sync operation's future (`state`) is destroyed before the completion sender
(`task_finished`) releases the queue to the next operation -/
theorem future_sync_destroyed_before_release : syncFutureFields = ["state", "scheduler_future", "task_finished"] := syncFuture_drop_order

/-- **The run right is exclusive in every reachable state** (any number of objects, threads and calls,
any pool size, any interleaving): the program counters of two different activities never both lie in
the region of the code that may dequeue, run, poll or requeue jobs of the same queue or set its
state directly.  (Proved by induction over all model steps: Inv/HolderReach.) -/
theorem run_right_is_exclusive {s : State} (hr : Reachable s) (a b q : Nat)
    (ha : (s.pcAt a).holds q = true) (hb : (s.pcAt b).holds q = true) : a = b :=
  run_right_exclusive hr a b q ha hb

/-- In every reachable state the owner recorded for a queue is exactly the activity inside that
region, and a queue that has an owner is in one of the states `running`, `awokenWhileRunning`,
`waitingForUnpark` — the states from which no table grants the run right (`held_state_never_claimed`). -/
theorem holder_invariant {s : State} (hr : Reachable s) : HolderInv s := holderInv_reachable hr

/-- **Jobs are run only under the run right**: in every reachable state a job that has been dequeued (or created by
sync_immediate) and not yet requeued, finished or destroyed is in the hands of exactly one activity, that activity's
program counter says so, and it owns the run right of the job's queue.  (Inv/JobInv, Inv/JobReach: `JobInv` is
inductive over all 101 program counters.) -/
theorem running_job_has_owner {s : State} (hr : Reachable s) {j a : Nat} {b : Job} (hb : s.jobs[j]? = some b) (hph : b.ph = .held a) :
    (s.pcAt a).holds b.q = true ∧ s.holder[b.q]? = some (some a) :=
  held_job_owner_holds hr hb hph

/-- **Two operations on one object are never being run at the same time**: of all the jobs of one queue at most one is
in the hands of a runner, whichever threads are involved.  Together with `open_jobs_exclusive` below (suspended
operations) this is `C01_full`. -/
theorem running_operations_never_overlap {s : State} (hr : Reachable s) {j1 j2 a1 a2 : Nat} {b1 b2 : Job}
    (h1 : s.jobs[j1]? = some b1) (h2 : s.jobs[j2]? = some b2) (hq : b1.q = b2.q)
    (hp1 : b1.ph = .held a1) (hp2 : b2.ph = .held a2) : j1 = j2 :=
  running_jobs_exclusive hr h1 h2 hq hp1 hp2

/-- the jobs in a queue's list are exactly its queued jobs, each once -/
theorem queue_lists_are_exact {s : State} (hr : Reachable s) {q : Nat} {v : JobQ} (hv : s.qs[q]? = some v) :
    v.jobs.Nodup ∧ ∀ j ∈ v.jobs, ∃ b, s.jobs[j]? = some b ∧ b.ph = .queued ∧ b.q = q := by
  obtain ⟨_, h⟩ := jobInv_reachable hr
  refine ⟨h.nodup q v.jobs (qjobs_of hv), ?_⟩
  intro j hj
  exact jobPQ_some (h.queued q v.jobs j (qjobs_of hv) hj)

/-- **C01 holds in the model**: in every reachable state at most one operation per object is open, where an
operation is open from the invocation of its closure until it completes or is destroyed — so a future operation
suspended at an await counts.  (`exclusive_reachable`: the job invariant `JobInv` — who runs which job, queue lists
exact, an open job is held or is the head of its queue, no open queued job while a job of the queue is held — is
inductive over all 101 program counters and every environment step, on top of the run-right invariant.) -/
theorem C01_holds : C01_full := fun _ hr => exclusive_reachable hr

/-- non-vacuity: a reachable state with an open operation (a `sync` closure has been invoked on an idle queue) -/
example : ∃ s, Reachable s ∧ ∃ (j : Nat) (b : Job), s.jobs[j]? = some b ∧ b.isOpen = true := by
  refine ⟨_, Reachable.step (.act 0) (Reachable.step (.invoke 1 none (.sync 0)) (Reachable.init 1 0 1) rfl) rfl, 0, _, rfl, ?_⟩
  decide

/-- non-vacuity: a concrete reachable state in which an activity owns a queue -/
example : ∃ s, Reachable s ∧ ∃ a q, (s.pcAt a).holds q = true := by
  refine ⟨_, Reachable.step (.act 0) (Reachable.step (.invoke 1 none (.sync 0)) (Reachable.init 1 0 1) rfl) rfl, 0, 0, ?_⟩
  decide

end Desync.C01
