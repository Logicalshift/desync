/-
C07 — future_desync/after futures deliver their operation's result exactly once.
-/
import DesyncModel.Spec
import DesyncModel.Tables.FutureDrop
import DesyncModel.Tables.Claim
import DesyncModel.Lemmas
import DesyncModel.Setters
import DesyncModel.Inv.Holder
import DesyncModel.Inv.Sig
import DesyncModel.Inv.Drain
import DesyncModel.Inv.Res
import DesyncModel.Inv.TaskWaker
import DesyncModel.Inv.StepTables
import DesyncModel.Inv.Kind

namespace Desync.C07
open Desync Gen

/-- Full-strength statement of the liveness half: at quiescence, with all gates open and a pool
thread allowed, no task is still waiting on a SchedulerFuture. -/
def awaiter_woken_full : Prop :=
  ∀ s, Reachable s → Quiescent s → AllGatesOpen s → 1 ≤ s.maxThreads →
    ∀ (a : Nat) (v : Act) (f : Nat), s.acts[a]? = some v → v.pc ≠ .pfBlocked f

/-- A polling task either takes the queue over (and drains it itself) or stores its waker in the same
critical section as the state test; it never waits without a stored waker. -/
theorem poll_waits_with_waker (self : Nat) (st : QState) (h : (pollDecide self st).2.1 = .wait) :
    (pollDecide self st).2.2 = true ∧ (pollDecide self st).1 = st :=
  ⟨((pollDecide_spec self st).2 h).2.1, ((pollDecide_spec self st).2 h).1⟩

/-- a sibling future's `waitingForPoll` is never taken over by another future's poll -/
theorem sibling_not_stolen (self f : Nat) (h : f ≠ self) : pollDecide self (.waitingForPoll f) = (.waitingForPoll f, .wait, true) :=
  pollDecide_other_waits self f h

theorem signal_step_post {s s' : State} {a j r : Nat} {c : Ctx} {k : Pc} {act : Act} {o : Obs} {jb : Job} {fu : Fut}
    (ha : s.acts[a]? = some act) (hc : act.child = none) (hpc : act.pc = .jobSignal j c k)
    (hj : s.jobs[j]? = some jb) (hr : jb.kind.res = some r) (hf : s.futs[r]? = some fu)
    (hstep : stepAct s a = some (s', o)) :
    ∃ pc, s' = (((s.setJob j { jb with ended := true, sig := true }).setFut r { fu with res := .ok, waker := none }).goto a pc) ∧ o = .csR r := by
  unfold stepAct at hstep
  simp only [ha, hc, hpc, hj, hr, hf, Option.isSome_none, Bool.false_eq_true, ↓reduceIte] at hstep
  split at hstep <;>
  · obtain ⟨rfl, rfl⟩ := Prod.mk.inj (Option.some.inj hstep)
    exact ⟨_, rfl, rfl⟩

/-- The signal step stores the result and takes the waker in one critical section: the result slot
goes none → ok exactly once, and the waker that was stored is the one fired. -/
theorem signal_step (s s' : State) (a j r : Nat) (c : Ctx) (k : Pc) (act : Act) (o : Obs) (jb : Job) (fu : Fut)
    (ha : s.acts[a]? = some act) (hc : act.child = none) (hpc : act.pc = .jobSignal j c k)
    (hj : s.jobs[j]? = some jb) (hr : jb.kind.res = some r) (hf : s.futs[r]? = some fu)
    (hstep : stepAct s a = some (s', o)) :
    ∃ fu', s'.futs[r]? = some fu' ∧ fu'.res = .ok ∧ fu'.waker = none ∧ o = .csR r := by
  obtain ⟨pc, rfl, rfl⟩ := signal_step_post ha hc hpc hj hr hf hstep
  exact ⟨{ fu with res := .ok, waker := none }, by simp [State.setFut, lt_of_getElem?_some hf], rfl, rfl, rfl⟩

/-- taking the result marks the slot `returned`: a second take cannot yield the value again -/
theorem take_once (s s' : State) (a f : Nat) (act : Act) (o : Obs) (fu : Fut)
    (ha : s.acts[a]? = some act) (hc : act.child = none) (hpc : act.pc = .pfPoll f)
    (hf : s.futs[f]? = some fu) (hres : fu.res = .ok)
    (hstep : stepAct s a = some (s', o)) :
    ∃ fu', s'.futs[f]? = some fu' ∧ fu'.res = .returned := by
  unfold stepAct at hstep
  simp only [ha, hc, hpc, hf, hres, Option.isSome_none, Bool.false_eq_true, ↓reduceIte, beq_self_eq_true, Bool.true_or] at hstep
  have hlt : f < s.futs.length := lt_of_getElem?_some hf
  obtain ⟨rfl, _⟩ := Prod.mk.inj (Option.some.inj hstep)
  exact ⟨{ fu with res := .returned }, by simp [State.setFut, State.setAct, hlt], rfl⟩

/-- the step of `Drop for SchedulerFuture`, by the `draining` flag and the table's answer -/
theorem fdDrop_step {s s' : State} {a f : Nat} {k : Pc} {act : Act} {o : Obs} {fu : Fut} {v : JobQ}
    (ha : s.acts[a]? = some act) (hc : act.child = none) (hpc : act.pc = .fdDrop f k)
    (hf : s.futs[f]? = some fu) (hq : s.qs[fu.q]? = some v) (hstep : stepAct s a = some (s', o)) :
    if fu.draining = true ∧ (futureDropDecide f v.state).2 = true
    then s' = (s.setQ fu.q { v with state := (futureDropDecide f v.state).1 }).goto a (.rqCs fu.q k) ∧ o = .csQ fu.q
    else s' = s.goto a k := by
  unfold stepAct at hstep
  simp only [ha, hc, hpc, hf, hq, Option.isSome_none, Bool.false_eq_true, ↓reduceIte] at hstep
  split at hstep
  · next hd =>
    split at hstep
    · next hr =>
      obtain ⟨rfl, rfl⟩ := Prod.mk.inj (Option.some.inj hstep)
      rw [if_pos ⟨hd, hr⟩]
      exact ⟨rfl, rfl⟩
    · next hr =>
      obtain ⟨rfl, -⟩ := Prod.mk.inj (Option.some.inj hstep)
      rw [if_neg fun h => hr h.2]
  · next hd =>
    obtain ⟨rfl, -⟩ := Prod.mk.inj (Option.some.inj hstep)
    rw [if_neg fun h => hd h.1]

/-- **A dropped poller hands its queue back** (defect F6, repaired by `fix:` e21933a): when a SchedulerFuture whose
`draining` flag is set is dropped while its queue is waiting to be polled by exactly this future, the queue becomes `idle`
in that critical section and the dropping thread goes on to reschedule it (`rqCs`) before it continues — so the
operation, and everything queued behind it, runs in the background. -/
theorem dropped_poller_hands_back (s s' : State) (a f : Nat) (k : Pc) (act : Act) (o : Obs) (fu : Fut) (v : JobQ)
    (ha : s.acts[a]? = some act) (hc : act.child = none) (hpc : act.pc = .fdDrop f k)
    (hf : s.futs[f]? = some fu) (hq : s.qs[fu.q]? = some v) (hd : fu.draining = true) (hst : v.state = .waitingForPoll f)
    (hstep : stepAct s a = some (s', o)) :
    s'.qs[fu.q]? = some { v with state := .idle } ∧ s'.acts[a]? = some { act with pc := .rqCs fu.q k } ∧ o = .csQ fu.q := by
  have hr : (futureDropDecide f v.state).2 = true := (futureDrop_spec f v.state).1.mpr hst
  have := fdDrop_step ha hc hpc hf hq hstep
  rw [if_pos ⟨hd, hr⟩, (futureDrop_spec f v.state).2.1 hr] at this
  obtain ⟨rfl, rfl⟩ := this
  exact ⟨by simp [lt_of_getElem?_some hq], acts_goto_self _ (by simpa using ha), rfl⟩

/-- in any other state of the queue, or when the future never drained it, the drop changes nothing (it may take the
queue lock with a stale `draining` flag, but the state and the job list stay as they are) -/
theorem drop_elsewhere_is_inert (s s' : State) (a f : Nat) (k : Pc) (act : Act) (o : Obs) (fu : Fut) (v : JobQ)
    (ha : s.acts[a]? = some act) (hc : act.child = none) (hpc : act.pc = .fdDrop f k)
    (hf : s.futs[f]? = some fu) (hq : s.qs[fu.q]? = some v) (hst : fu.draining = false ∨ v.state ≠ .waitingForPoll f)
    (hstep : stepAct s a = some (s', o)) :
    s'.qs = s.qs ∧ s'.jobs = s.jobs ∧ s'.acts[a]? = some { act with pc := k } := by
  have := fdDrop_step ha hc hpc hf hq hstep
  rw [if_neg] at this
  · subst this
    exact ⟨qs_goto .., jobs_goto .., acts_goto_self _ ha⟩
  · rintro ⟨hd, hr⟩
    rcases hst with h | h
    · rw [hd] at h; cases h
    · exact h ((futureDrop_spec f v.state).1.mp hr)

/-- the flag is raised in the critical section before the queue is marked `waitingForPoll` for this future -/
theorem wfp_preceded_by_draining (s s' : State) (a f l q : Nat) (act : Act) (o : Obs) (fu : Fut)
    (ha : s.acts[a]? = some act) (hc : act.child = none) (hpc : act.pc = .dqStore f l q)
    (hf : s.futs[f]? = some fu) (hstep : stepAct s a = some (s', o)) :
    ∃ fu', s'.futs[f]? = some fu' ∧ fu'.draining = true ∧ fu'.q = fu.q ∧ (s'.pcAt a) = .dqSetWfp f l q := by
  unfold stepAct at hstep
  simp only [ha, hc, hpc, hf, Option.isSome_none, Bool.false_eq_true, ↓reduceIte] at hstep
  obtain ⟨rfl, _⟩ := Prod.mk.inj (Option.some.inj hstep)
  have hlt : f < s.futs.length := lt_of_getElem?_some hf
  refine ⟨{ fu with waker := some (.task act.thread), draining := true }, by simp [State.setFut, hlt], rfl, rfl, ?_⟩
  have : a < s.acts.length := lt_of_getElem?_some ha
  simp [pcAt_goto, this]

/-- **The result of an operation is handed to its future at most once** (safety half of "exactly once"), in every reachable
state, for every program, pool size and interleaving: the activity that stands at the signal step of a job finds the job
unsignalled (`sig` is a ghost flag raised by that very step), because a signalled job is never put back into a queue and
whoever has it in hand is past the signal step (`SigInv`, inductive over all program counters: Inv/Sig). -/
theorem result_signalled_at_most_once {s : State} (hr : Reachable s) {a j : Nat} {c : Ctx} {k : Pc} {jb : Job}
    (hpc : s.pcAt a = .jobSignal j c k) (hj : s.jobs[j]? = some jb) : jb.sig = false :=
  signal_at_most_once hr hpc hj

/-- the signal step is the step that raises the flag and stores `ok` in the job's future (so the store happens at most once per job) -/
theorem signal_step_raises_flag (s s' : State) (a j r : Nat) (c : Ctx) (k : Pc) (act : Act) (o : Obs) (jb : Job) (fu : Fut)
    (ha : s.acts[a]? = some act) (hc : act.child = none) (hpc : act.pc = .jobSignal j c k)
    (hj : s.jobs[j]? = some jb) (hr : jb.kind.res = some r) (hf : s.futs[r]? = some fu)
    (hstep : stepAct s a = some (s', o)) :
    ∃ jb', s'.jobs[j]? = some jb' ∧ jb'.sig = true ∧ jb'.ended = true := by
  obtain ⟨pc, rfl, -⟩ := signal_step_post ha hc hpc hj hr hf hstep
  exact ⟨{ jb with ended := true, sig := true }, by simp [State.setJob, lt_of_getElem?_some hj], rfl, rfl⟩

/-- a job that has been signalled sits in no queue, so no runner can take it again -/
theorem signalled_job_is_never_requeued {s : State} (hr : Reachable s) {q j : Nat} {v : JobQ} {jb : Job}
    (hv : s.qs[q]? = some v) (hm : j ∈ v.jobs) (hj : s.jobs[j]? = some jb) : jb.sig = false :=
  signalled_job_not_queued hr hv hm hj

/-- **Dropping the designated poller of a queue always releases the queue** (the repair of defect F6, as an invariant): in
every reachable state, if a queue is waiting to be polled by future `f`, then `f` exists, belongs to that queue and has its
`draining` flag set (`DrainInv`, inductive over all program counters: Inv/Drain) — so the step that
drops `f` takes the branch of `dropped_poller_hands_back`: the queue becomes idle and is rescheduled. -/
theorem dropping_designated_poller_releases_queue {s s' : State} (hr : Reachable s) {a f q : Nat} {k : Pc} {act : Act} {o : Obs} {v : JobQ}
    (hv : s.qs[q]? = some v) (hst : v.state = .waitingForPoll f)
    (ha : s.acts[a]? = some act) (hc : act.child = none) (hpc : act.pc = .fdDrop f k) (hstep : stepAct s a = some (s', o)) :
    s'.qs[q]? = some { v with state := .idle } ∧ s'.acts[a]? = some { act with pc := .rqCs q k } := by
  obtain ⟨fu, hf, hd, hq⟩ := designated_poller_is_draining hr hv hst
  subst hq
  have := dropped_poller_hands_back s s' a f k act o fu v ha hc hpc hf hv hd hst hstep
  exact ⟨this.1, this.2.1⟩

/-- **The future never resolves to `Ok` before its operation has finished** ("never before that operation has finished"), in every
reachable state: while the result slot of a future holds `Ok`, there is a job whose completion future it is and which has
ended — `future_desync`, `after`, the slot job of `future_sync`, the completion of a suspend request — or it is the
`finished_suspending` future of a suspend job that has begun (C13).  (`ResInv`: the slot is written `Ok` only by the signal
step, which marks the job ended in the same critical section, and by the suspend job's hand-over step; `Ok` is never
written anywhere else; jobs never lose `ended` / `begun` — inductive over all program counters and environment steps.) -/
theorem resolves_only_after_the_operation_finished {s : State} (hr : Reachable s) {r : Nat} {fu : Fut} (hf : s.futs[r]? = some fu)
    (hok : fu.res = .ok) : ∃ (j : Nat) (jb : Job), s.jobs[j]? = some jb ∧
      ((jb.kind.res = some r ∧ jb.ended = true) ∨ (∃ op g r', jb.kind = .susp op g r r' ∧ jb.begun = true)) :=
  (resInv_reachable hr).ok r fu hf hok

/-- **The waker held in a result slot is always a polling task's context waker**, in every reachable state (`TaskWakerInv`,
inductive over all program counters and environment steps): `signal` takes the slot's waker and fires it, so what it wakes is
the task awaiting the future — never a queue, a thread inside `sync`, or a latch. -/
theorem result_slot_waker_is_a_task_waker {s : State} (hr : Reachable s) {f : Nat} {fu : Fut} {w : Waker}
    (hf : s.futs[f]? = some fu) (hw : fu.waker = some w) : ∃ t, w = .task t :=
  Waker.task_of_isTask ((taskWakerInv_reachable hr).fut f fu hf w hw)

/-- the same for the two wakers a `SyncFuture` registers on behalf of the task polling it (on its `queue_ready` receiver and
with the event the user future awaits) -/
theorem sync_future_wakers_are_task_wakers {s : State} (hr : Reachable s) {u : Nat} {sf : SyncFut} (hu : s.sfs[u]? = some sf) :
    (∀ w, sf.readyWaker = some w → ∃ t, w = .task t) ∧ (∀ w, sf.userReg = some w → ∃ t, w = .task t) :=
  have h := (taskWakerInv_reachable hr).sf u sf hu
  ⟨fun w hw => Waker.task_of_isTask (h.1 w hw), fun w hw => Waker.task_of_isTask (h.2 w hw)⟩

/-- non-vacuity: a slot holding the waker of the task on thread 2 -/
example : TaskWakerInv { initState 1 0 1 with futs := [{ q := 0, res := .none, waker := some (.task 2) }] } := by
  refine ⟨fun f fu hf => ?_, fun u sf hu => by cases hu⟩
  match f with
  | 0 => cases hf; exact optTask_task 2
  | n + 1 => cases hf

/-- **A future belongs to one queue for its whole life**: no step of the model — internal or environment — removes a
`SchedulerFuture` or changes the queue it belongs to (`FutsMono`, a two-state fact over every program counter and every label),
so `.sync()` on a returned future always synchronises with the object its operation was scheduled on. -/
theorem future_keeps_its_queue {s s' : State} {l : Label} (hstep : next s l = some s') {f : Nat} {fu : Fut}
    (hf : s.futs[f]? = some fu) : ∃ fu', s'.futs[f]? = some fu' ∧ fu'.q = fu.q :=
  (futsSfsMono_next hstep).1 f fu hf

/-- the same for the value returned by `future_sync`: it keeps its scheduler future, its queue and its operation -/
theorem sync_future_keeps_its_parts {s s' : State} {l : Label} (hstep : next s l = some s') {u : Nat} {sf : SyncFut}
    (hu : s.sfs[u]? = some sf) : ∃ sf', s'.sfs[u]? = some sf' ∧ sf'.f = sf.f ∧ sf'.q = sf.q ∧ sf'.op = sf.op := by
  obtain ⟨sf', h1, h2, h3, h4, _⟩ := (futsSfsMono_next hstep).2 u sf hu
  exact ⟨sf', h1, h2, h3, h4⟩

/-- **The future a job will signal belongs to the job's own queue**, in every reachable state (`KindInv`: inductive over all
program counters — a list-valued classifier follows every `schedule_job_desync` in progress, at the head of a program counter
or inside a continuation — and over every environment step, with `FutsMono` / `SfsMono` and the job table's monotonicity): for a
`future_desync` / `after` job the completion future, for the slot job of `future_sync` the completion future *and* the
`SyncFuture` it serves, for a suspend job both of its futures.  So `.sync()` on a returned future waits on the object its
operation really runs on, and a queue that is `WaitingForPoll(f)` on behalf of one of its jobs is `f`'s own queue. -/
theorem job_futures_belong_to_the_jobs_queue {s : State} (hr : Reachable s) {j : Nat} {jb : Job} (hj : s.jobs[j]? = some jb) :
    (∀ op g r, jb.kind = .fut op g r → ∃ fu, s.futs[r]? = some fu ∧ fu.q = jb.q) ∧
    (∀ op g r, jb.kind = .after op g r → ∃ fu, s.futs[r]? = some fu ∧ fu.q = jb.q) ∧
    (∀ u r, jb.kind = .slot u r → (∃ fu, s.futs[r]? = some fu ∧ fu.q = jb.q) ∧ (∃ sf, s.sfs[u]? = some sf ∧ sf.q = jb.q)) ∧
    (∀ op g fs r, jb.kind = .susp op g fs r → (∃ fu, s.futs[fs]? = some fu ∧ fu.q = jb.q) ∧ (∃ fu, s.futs[r]? = some fu ∧ fu.q = jb.q)) := by
  have h := (kindInv_reachable hr).jobs j jb hj
  refine ⟨?_, ?_, ?_, ?_⟩
  · intro op g r hk; rw [hk] at h; exact Option.map_eq_some_iff.mp h
  · intro op g r hk; rw [hk] at h; exact Option.map_eq_some_iff.mp h
  · intro u r hk; rw [hk] at h; exact ⟨Option.map_eq_some_iff.mp h.1, Option.map_eq_some_iff.mp h.2⟩
  · intro op g fs r hk; rw [hk] at h; exact ⟨Option.map_eq_some_iff.mp h.1, Option.map_eq_some_iff.mp h.2⟩

end Desync.C07
