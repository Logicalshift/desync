/-
C13 — a suspended queue holds later work until resumed, then continues in order.
Suspension is an ordinary future job (kind `susp`): it signals the resumer hand-over and then
awaits the resume channel, so the property is a corollary of the queue protocol (C01, C02, C06).
-/
import DesyncModel.Spec
import DesyncModel.Tables.Wake
import DesyncModel.Lemmas
import DesyncModel.Setters
import DesyncModel.Inv.JobReach
import DesyncModel.Inv.Res
import DesyncModel.Inv.Kind

namespace Desync.C13
open Desync Gen

/-- Full-strength statement: once the suspend future has resolved, the suspend job is begun and not
ended until the resume channel is used or dropped; with C01 (one open job per queue) and C02 (order)
nothing scheduled later starts meanwhile and everything scheduled earlier has ended. -/
def holds_later_full : Prop :=
  ∀ s, Reachable s → ∀ (j : Nat) (b : Job) (op g fs res : Nat), s.jobs[j]? = some b → b.kind = .susp op g fs res →
    b.begun = true → s.gateReady g op = false → b.ended = false

/-- The suspend job is not finished (its final signal is not sent) while the resume channel is
silent: from `jobAwait` it goes back to Pending. -/
theorem stays_suspended (s s' : State) (a j : Nat) (c : Ctx) (k : Pc) (act : Act) (o : Obs) (jb : Job) (op g fs res : Nat)
    (ha : s.acts[a]? = some act) (hc : act.child = none) (hpc : act.pc = .jobAwait j c k)
    (hj : s.jobs[j]? = some jb) (hk : jb.kind = .susp op g fs res) (hclosed : s.gateReady g op = false)
    (hstep : stepAct s a = some (s', o)) :
    ∃ act', s'.acts[a]? = some act' ∧ act'.pc = ctxPending j k c ∧ o = .silent := by
  unfold stepAct at hstep
  simp only [ha, hc, hpc, hj, hk, hclosed, Option.isSome_none, Bool.false_eq_true, ↓reduceIte] at hstep
  obtain ⟨rfl, rfl⟩ := Prod.mk.inj (Option.some.inj hstep)
  exact ⟨{ act with pc := ctxPending j k c }, acts_goto_self _ (by simpa using ha), rfl, rfl⟩

/-- using OR dropping the resumer opens the channel and fires the waker the suspended job registered -/
theorem resume_fires_registered_waker (s s' : State) (a j op g fs res : Nat) (k : Pc) (act : Act) (o : Obs) (jb : Job) (gt : Gate) (w : Waker)
    (ha : s.acts[a]? = some act) (hc : act.child = none) (hpc : act.pc = .resumeSend op k)
    (hjo : s.jobOfOp op = some j) (hj : s.jobs[j]? = some jb) (hk : jb.kind = .susp op g fs res)
    (hg : s.gates[g]? = some gt) (hreg : jb.reg = some w)
    (hstep : stepAct s a = some (s', o)) :
    ∃ act', s'.acts[a]? = some act' ∧ act'.pc = .waking [w] k := by
  unfold stepAct at hstep
  simp only [ha, hc, hpc, hjo, hj, hk, hg, hreg, Option.isSome_none, Bool.false_eq_true, ↓reduceIte] at hstep
  obtain ⟨rfl, _⟩ := Prod.mk.inj (Option.some.inj hstep)
  exact ⟨{ act with pc := .waking [w] k }, acts_goto_self _ (by simpa using ha), rfl⟩

/-- sync calls made during the suspension wait (the queue is parked, not claimable) -/
theorem sync_waits_while_suspended (f : Nat) (e : Bool) :
    (syncDecide .waitingForWake e).2 = .background ∧ (syncDecide .waitingForUnpark e).2 = .background ∧
    (syncDecide (.waitingForPoll f) e).2 = .background := by
  cases e <;> exact ⟨rfl, rfl, rfl⟩

/-- **A suspended queue holds later work, and everything scheduled earlier has finished (safety half of C13), in every
reachable state**: while a suspension (or any other operation) of an object is open — begun and neither completed nor
destroyed, which for a `suspend` lasts from the moment the queue reaches it until the resumer is used or dropped — no
other operation of that object is open, no operation accepted later has begun, and every operation accepted earlier
has ended.  Corollary of `C01_holds` (Exclusive) and `C02_holds` (InOrder). -/
theorem suspended_queue_holds_later_work {s : State} (hr : Reachable s) {j : Nat} {b : Job}
    (hb : s.jobs[j]? = some b) (hbeg : b.begun = true) (hend : b.ended = false) :
    ∀ (j' : Nat) (b' : Job), s.jobs[j']? = some b' → b'.q = b.q → j' ≠ j →
      b'.isOpen = false ∧ (j < j' → b'.begun = false) ∧ (j' < j → b'.ended = true) := by
  intro j' b' hb' hq hne
  have hex := exclusive_reachable hr
  have hio := inOrder_reachable hr
  have hopen : b.isOpen = true := by simp [Job.isOpen, hbeg, hend]
  refine ⟨?_, ?_, ?_⟩
  · cases ho : b'.isOpen with
    | false => rfl
    | true => exact absurd (hex j' j b' b hb' hb hq ho hopen) hne
  · intro hlt
    cases hb2 : b'.begun with
    | false => rfl
    | true =>
      have := hio j j' b b' hb hb' hq.symm hlt hb2
      rw [hend] at this; cases this
  · intro hlt
    exact hio j' j b' b hb' hb hq hlt hbeg

/-- **The future returned by `suspend` resolves only once the suspend job has begun**: an activity about to signal
`finished_suspending` for suspend job `j` finds that job begun — and a begun job has only ended predecessors on its object
(C02, `InOrder`), which is "every operation scheduled before the suspend request has completed". -/
theorem suspend_signal_comes_from_a_begun_suspend_job {s : State} (hr : Reachable s) {a j : Nat} {c : Ctx} {k : Pc}
    (hpc : s.pcAt a = .suspSignal j c k) : ∃ jb : Job, s.jobs[j]? = some jb ∧ jb.begun = true :=
  (resInv_reachable hr).sus a j (by rw [hpc]; exact List.mem_cons_self)

/-- **Both futures of a suspend request are futures of the suspended queue**, in every reachable state (`KindInv`): the one that
tells the caller "the queue is now suspended" (`finished_suspending`) and the one that reports the completion of the suspend job
belong to the queue the suspend job sits in — so `resolves_only_after…` (C07) and the order theorems (C02) speak about the same
object when they are applied to a suspension. -/
theorem suspend_futures_belong_to_the_suspended_queue {s : State} (hr : Reachable s) {j op g fs r : Nat} {jb : Job}
    (hj : s.jobs[j]? = some jb) (hk : jb.kind = .susp op g fs r) :
    futQ s.futs fs = some jb.q ∧ futQ s.futs r = some jb.q := by
  have h := (kindInv_reachable hr).jobs j jb hj
  rw [hk] at h
  exact h

end Desync.C13
