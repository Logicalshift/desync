/-
C04 — sync always returns, with its own result, after running its closure once.
-/
import DesyncModel.Spec
import DesyncModel.Tables.Panic
import DesyncModel.Tables.Sync
import DesyncModel.Tables.Wake
import DesyncModel.Inv.Run
import DesyncModel.Inv.ErasedReach
import DesyncModel.Inv.CvReach
import DesyncModel.FactHandBack

namespace Desync.C04
open Desync Gen

/-- Full-strength statement: at quiescence (all gates open) no activity is inside a `sync` call. -/
def C04_full : Prop :=
  ∀ s, Reachable s → Quiescent s → AllGatesOpen s → NoCallInProgress s

/-- `sync` always picks one of its three strategies unless the queue has panicked. -/
theorem strategy_total (st : QState) (e : Bool) (h : st ≠ .panicked) :
    (syncDecide st e).2 = .immediate ∨ (syncDecide st e).2 = .drain ∨ (syncDecide st e).2 = .background := by
  rcases syncDecide_total st e with h1 | h1 | h1 | h1
  · exact .inl h1
  · exact .inr (.inl h1)
  · exact .inr (.inr h1)
  · exact absurd ((syncDecide_panics_iff st e).mp h1) h

/-- A waiting caller can always take over a queue that has been handed back. -/
theorem waiter_can_claim (st : QState) (h : st.claimable = true) : claim st = (.running, true) := by
  cases st
  case idle | pending => rfl
  all_goals cases h

/-- The caller-side park loop never parks on a remembered wake. -/
theorem no_park_on_wake :
    runOnePending .awokenWhileRunning = (.running, .continue) ∧ parkCheck .running = .continue ∧ parkCheck .awokenWhileRunning = .continue :=
  ⟨remembered_wake_repolls.2.1, remembered_wake_repolls.2.2.2, remembered_wake_repolls.2.2.1⟩

/-- **`sync` runs its closure at most once, in every reachable state**: whichever of its three strategies the call took, the
job that carries the closure (created already running by sync_immediate, or queued as a lifetime-erased job by sync_drain /
sync_background) is started only if its closure has not been invoked before. -/
theorem sync_closure_runs_at_most_once {s : State} (hr : Reachable s) {a j owner : Nat} {body : Body} {c : Ctx} {k : Pc} {jb : Job}
    (hpc : s.pcAt a = .jobStart j c k) (hj : s.jobs[j]? = some jb)
    (hk : jb.kind = .erasedDrain owner body ∨ jb.kind = .erasedBg owner body ∨ jb.kind = .immediate owner body) : jb.begun = false := by
  refine closure_invoked_at_most_once hr (Or.inl hpc) hj ?_
  rcases hk with h | h | h <;> rw [h] <;> rfl

/-- **`sync` does not return before its own closure has been run (or destroyed)**: in every reachable state, as long as the job
that carries the closure of a `sync` call (sync_drain / sync_background) has not been dropped, the activity of that very call
is inside its wait loop, waiting for exactly this job — it has neither returned nor moved on.  (`ErasedInv`, the invariant
behind C14.)  With `sync_closure_runs_at_most_once`: the call returns after its own closure ran, once. -/
theorem sync_waits_for_its_own_closure {s : State} (hr : Reachable s) {j : Nat} {b : Job} {owner : Nat} {body : Body}
    (hb : s.jobs[j]? = some b) (hk : b.kind = .erasedDrain owner body ∨ b.kind = .erasedBg owner body) (hnd : b.ph ≠ .done) :
    (s.pcAt owner).awaited = some j :=
  erased_job_owner_waits hr hb hk hnd

/-- **A sync caller asleep on its condition variable is never left there once its job has been run.**  In every reachable
state, for a caller blocked in `Condvar::wait` (`sbWaiting`): it has been notified (it will wake, re-check and return), or
its `ready` flag is not set (its lifetime-erased job has not been dropped yet: `sync_waits_for_its_own_closure` places the
job in the queue or in a runner's hands), or whoever dropped the job is between setting the flag and `notify_all`.
The proof is the code comment made exact: the caller holds its `ready` lock from seeing "not ready" until the wait releases
it (`caller_waits_under_its_lock`), and the flag is set only with that lock free. -/
theorem sleeping_sync_caller_is_not_forgotten {s : State} (hr : Reachable s) {a q j : Nat} (hpc : s.pcAt a = .sbWaiting q j) :
    s.isWoken a = true ∨ s.isReady a = false ∨ ∃ b j', (s.pcAt b).dropNotifies = some j' ∧ s.jobOwner j' = some a :=
  (cvInv_reachable hr).w a (by rw [hpc]; rfl)

/-- between testing `ready` and starting to wait the caller holds its own `ready` lock, the flag is still down, and nobody
else holds that lock (each `ready` lock has one holder; `reschedule_queue` holds the lock of the caller it signals) -/
theorem caller_waits_under_its_lock {s : State} (hr : Reachable s) {a : Nat} (hpc : (s.pcAt a).sbNr = true) :
    (a, a) ∈ s.readyLock ∧ s.isReady a = false ∧ ∀ b, (a, b) ∈ s.readyLock → b = a :=
  let h := cvInv_reachable hr
  ⟨h.rl a (sbNr_sbOwn hpc), h.nr a hpc, fun b hb => h.ml a b a hb (h.rl a (sbNr_sbOwn hpc))⟩

theorem signaller_holds_the_callers_lock {s : State} (hr : Reachable s) {b w : Nat} (hpc : (s.pcAt b).notifies = some w) : (w, b) ∈ s.readyLock :=
  (cvInv_reachable hr).rl2 b w hpc

/-- the runners' hand-backs are unconditional in the source, as the model's `siIdle` / `sdIdle` / `sbStealIdle` / `dqIdle` steps are
(regenerated fact): a queue is never left in a "somebody is running it" state because its runner found it changed -/
theorem runners_hand_back_unconditionally : stateConditionalHandBacks = [] := hand_backs_are_unconditional

end Desync.C04
