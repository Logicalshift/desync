/-
C11 — pipe_in processes every stream item once, in order, exclusively; it holds only a weak reference; it
stops, releasing stream and closure, once the stream ends or at the first stream event after the Desync is gone.

Model: `DesyncModel.Pipe.Model` with `through = false`.  The target Desync appears in it only as what C01–C03
establish for a queue: poll operations scheduled on it start one at a time (`job : Option _`); that each of them
runs inside the Desync's exclusive, ordered access is C01/C02 for `future_desync` jobs in the scheduler model.
-/
import DesyncModel.Pipe.Reach
import DesyncModel.FactPipe

namespace Desync.C11
open Desync Desync.Pipe

/-- Full-strength statement over the pipe model. -/
def C11_full : Prop :=
  ∀ s, Reachable s → s.through = false →
    -- once, in order: what has been processed, is being processed and is still waiting is exactly what was sent
    (s.processed ++ cur s ++ s.inq = s.sent)
    -- weak reference only
    ∧ s.strongHeld = false
    -- when the pipe can do nothing more by itself (and the target has not gone): everything sent has been processed,
    -- and if the input has ended the stream and the closure have been released
    ∧ (Stuck s → s.targetGone = false → s.processed = s.sent ∧ (s.inClosed = true → s.pollFn = false ∧ s.streamDropped = true ∧ s.fnDropped = true))
    -- after the first stream event that found the target gone, the stream and the closure are released
    ∧ (Stuck s → s.targetGone = true → s.pollFn = false ∧ s.streamDropped = true ∧ s.fnDropped = true)

/-- every item the input yields is processed exactly once, in stream order (also for `pipe`) -/
theorem once_in_order (s : PState) (h : Reachable s) : s.processed ++ cur s ++ s.inq = s.sent := by
  have hh := (pinv_reachable h).hist
  rw [hh.proc, hh.yld]

/-- the processing closure runs only inside the one running poll operation: one item at a time -/
theorem one_at_a_time (s s' : PState) (v : Nat) (hs : step s (.item v) = some s') : ∃ k, s.job = some (.process v, k) := by
  cases Pipe.Step.of_step hs <;> exact ⟨_, ‹_›⟩

/-- at most one poll operation runs at a time, and a new one starts only when none is running -/
theorem poll_operations_exclusive (s s' : PState) (hs : step s .jobBegin = some s') : s.job = none := by
  cases Pipe.Step.of_step hs <;> assumption

/-- pipe_in never holds a strong reference to its target -/
theorem weak_only (s : PState) (h : Reachable s) (ht : s.through = false) : s.strongHeld = false :=
  ((pinv_reachable h).flag.pipeIn ht).2.2.2

theorem released_when_stuck (s : PState) (h : Reachable s) (hst : Stuck s) (hp : s.pollFn = false) :
    s.streamDropped = true ∧ s.fnDropped = true :=
  (stuck_facts (pinv_reachable h).idx hst).released (pinv_reachable h).flag hp

/-- quiescence with the target still there: nothing sent is left unprocessed; an ended input has been let go of -/
theorem complete_when_stuck (s : PState) (h : Reachable s) (ht : s.through = false) (hst : Stuck s) (hg : s.targetGone = false) :
    s.processed = s.sent ∧ (s.inClosed = true → s.pollFn = false ∧ s.streamDropped = true ∧ s.fnDropped = true) := by
  have inv := pinv_reachable h
  have sf := stuck_facts inv.idx hst
  cases hp : s.pollFn with
  | false =>
    have d := inv.inp.done ht hg (Or.inl hp)
    exact ⟨d.2.2, fun _ => ⟨rfl, released_when_stuck s h hst hp⟩⟩
  | true =>
    have w := inv.wake.wake hp (Or.inl sf.job) (fun h' => nomatch ht.symm.trans h')
    have : slotArmed s s.inWaker = true ∧ s.inq = [] ∧ s.inClosed = false :=
      (wake_source_when_stuck sf w).resolve_left fun h' => nomatch ht.symm.trans h'.1
    exact ⟨by simpa [cur, sf.job, this.2.1] using once_in_order s h, fun hc => by rw [this.2.2] at hc; cases hc⟩

/-- the first stream event after the Desync is gone takes the poll function out; stream and closure are released -/
theorem stops_when_target_gone (s : PState) (h : Reachable s) (hst : Stuck s) (hg : s.targetGone = true) :
    s.pollFn = false ∧ s.streamDropped = true ∧ s.fnDropped = true := by
  have hp := (pinv_reachable h).flag.gone hg
  exact ⟨hp, released_when_stuck s h hst hp⟩

/-- the pipe cannot run forever by itself: quiescence is reached within `measure s` steps -/
theorem reaches_quiescence (s s' : PState) (n : Nat) (h : InternalRun s n s') : n ≤ measure s := by
  have := internalRun_bounded h; omega

/-- **C11 holds in the pipe model.** -/
theorem C11_holds : C11_full := by
  intro s h ht
  exact ⟨once_in_order s h, weak_only s h ht, complete_when_stuck s h ht, stops_when_target_gone s h⟩

/-- non-vacuity: a reachable pipe_in state in which two items have been sent and the first has been processed -/
example : ∃ s, Reachable s ∧ s.through = false ∧ s.processed = [7] ∧ s.sent = [7, 8] :=
  ⟨(runLabels (initP false 5) [.send 7, .send 8, .jobBegin, .yield 7, .item 7]).get (by decide),
   reachable_get _ _ _ (Reachable.init false 5), by decide, by decide, by decide⟩

/-- non-vacuity of the quiescence theorems: the pipe has processed both items, its input is still open, and it is stuck -/
example : ∃ s, Reachable s ∧ s.through = false ∧ s.processed = [7, 8] ∧ s.job = none ∧ s.scheduled = 0 ∧ s.inWaker = some 0 :=
  ⟨(runLabels (initP false 5) [.send 7, .send 8, .jobBegin, .yield 7, .item 7, .yield 8, .item 8, .inPending]).get (by decide),
   reachable_get _ _ _ (Reachable.init false 5), by decide, by decide, by decide, by decide, by decide⟩

end Desync.C11
