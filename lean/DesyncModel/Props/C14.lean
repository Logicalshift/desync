/-
C14 — the safe API is memory-safe under every interleaving (PARTIAL by nature: what a model can
carry is the temporal protocol the unsafe sites rely on; machine-level memory safety is trusted).
-/
import DesyncModel.Spec
import DesyncModel.Tables.Sync
import DesyncModel.FactDrop
import DesyncModel.FactUnsafe
import DesyncModel.Lemmas
import DesyncModel.Setters
import DesyncModel.Inv.ErasedReach

namespace Desync.C14
open Desync Gen

/-- Full-strength protocol statement: a lifetime-erased job that is not done has a live owner frame
still inside the `sync` call that created it. -/
def erased_job_inside_call_full : Prop :=
  ∀ s, Reachable s → ∀ (j : Nat) (b : Job) (owner : Nat) (body : Body),
    s.jobs[j]? = some b → (b.kind = .erasedDrain owner body ∨ b.kind = .erasedBg owner body) → b.ph ≠ .done →
    ∃ v, s.acts[owner]? = some v ∧ v.pc ≠ .dead ∧ v.pc ≠ .ret

/-- the value is freed through `sync` / `sync_no_panic`, i.e. by a job ordered after every other job -/
theorem free_is_a_sync_job : dropUses = ["sync", "sync_no_panic"] := drop_frees_through_sync

/-- ... and only so: `Drop` contains no release of the value outside the closure of that job (a direct release could run while a
suspended operation of the queue still holds its `&mut T`) -/
theorem free_only_inside_its_job : dropFreesOutsideJob = 0 := drop_frees_only_inside_its_job

/-- the inventory of `unsafe` in the source is the one these theorems are about (regenerated on every run) -/
theorem unsafe_inventory : unsafeSites.all (fun p => decide (p.2 ≤ unsafeAllowed p.1)) = true := unsafe_sites_are_the_modelled_ones

/-- `sync_drain` does not leave its loop before its erased job is done -/
theorem drain_owner_waits (s s' : State) (a q j : Nat) (act : Act) (o : Obs) (jb : Job)
    (ha : s.acts[a]? = some act) (hc : act.child = none) (hpc : act.pc = .sdCheck q j)
    (hj : s.jobs[j]? = some jb) (hnd : jb.ph ≠ .done) (hstep : stepAct s a = some (s', o)) :
    ∃ v, s'.acts[a]? = some v ∧ v.pc = .rjDequeue q (.sdCheck q j) := by
  unfold stepAct at hstep
  simp only [ha, hc, hpc, hj, beq_false_of_ne hnd, Option.isSome_none, Bool.false_eq_true, ↓reduceIte] at hstep
  obtain ⟨rfl, _⟩ := Prod.mk.inj (Option.some.inj hstep)
  exact ⟨{ act with pc := .rjDequeue q (.sdCheck q j) }, acts_goto_self _ ha, rfl⟩

/-- `sync_background` does not leave its wait loop before the `ready` flag is set, and the flag is
set only when the erased job's box is dropped -/
theorem bg_owner_waits (s s' : State) (a q j : Nat) (act : Act) (o : Obs)
    (ha : s.acts[a]? = some act) (hc : act.child = none) (hpc : act.pc = .sbTest q j)
    (hnr : s.isReady a = false) (hstep : stepAct s a = some (s', o)) :
    ∃ v, s'.acts[a]? = some v ∧ v.pc = .sbClaim q j := by
  unfold stepAct at hstep
  simp only [ha, hc, hpc, hnr, Option.isSome_none, Bool.false_eq_true, ↓reduceIte] at hstep
  obtain ⟨rfl, _⟩ := Prod.mk.inj (Option.some.inj hstep)
  exact ⟨{ act with pc := .sbClaim q j }, acts_goto_self _ ha, rfl⟩

/-- **The protocol statement of C14 holds in the model**: in every reachable state a lifetime-erased job that has not
been dropped has a live owner frame — the activity of the `sync` call that created it exists, has not returned and has
not finished; its program counter is inside the wait loop of sync_drain / sync_background, waiting for this very job
(`erased_job_owner_waits`; the invariant `ErasedInvF` — an erased job that is not done is awaited by its owner, the ready
flag is set only when the job is done, a call creates at most one erased job — is inductive over all 101 program
counters and every environment step). -/
theorem erased_job_inside_call : erased_job_inside_call_full := by
  intro s hr j b owner body hb hk hnd
  have hw := erased_job_owner_waits hr hb hk hnd
  cases ha : s.acts[owner]? with
  | none => rw [pcAt_of_ge (by simp [List.getElem?_eq_none_iff.mp ha])] at hw; cases hw
  | some v =>
    rw [pcAt_of ha] at hw
    exact ⟨v, rfl, fun e => (by rw [e] at hw; cases hw), fun e => (by rw [e] at hw; cases hw)⟩

/-- the value of a Desync is freed by a job ordered after every job accepted before the drop, and while it runs no other
operation on the object is open (C05's `free_waits_for_earlier_work`, `free_is_exclusive`): the `DataRef` pointer of every
earlier operation is dead by then -/
theorem data_pointer_protocol {s : State} (hr : Reachable s) {jf j : Nat} {bf b : Job}
    (hf : s.jobs[jf]? = some bf) (hj : s.jobs[j]? = some b) (hq : b.q = bf.q) (hlt : j < jf) (hbeg : bf.begun = true) : b.ended = true :=
  inOrder_reachable hr j jf b bf hj hf hq hlt hbeg

/-- non-vacuity: a reachable state with an erased job that is not done (a `sync` call on a busy queue) -/
example : ∃ s, Reachable s ∧ ∃ (j : Nat) (b : Job) (o : Nat) (body : Body), s.jobs[j]? = some b ∧ b.kind = .erasedBg o body ∧ b.ph ≠ .done := by
  refine ⟨_, Reachable.step (.act 1) (Reachable.step (.act 1) (Reachable.step (.act 1) (Reachable.step (.invoke 2 none (.sync 0)) (Reachable.step (.act 0) (Reachable.step (.invoke 1 none (.sync 0)) (Reachable.init 1 0 1) rfl) rfl) rfl) rfl) rfl) rfl, 1, _, 1, _, rfl, rfl, ?_⟩
  decide

end Desync.C14
