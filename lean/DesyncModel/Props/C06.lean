/-
C06 — a wake-up for a suspended future operation is never lost.
-/
import DesyncModel.Spec
import DesyncModel.Tables.Push
import DesyncModel.Tables.Wake
import DesyncModel.Inv.Park
import DesyncModel.Inv.WakeReach
import DesyncModel.Inv.Latch
import DesyncModel.Inv.Shape
import DesyncModel.Inv.Reg

namespace Desync.C06
open Desync Gen

/-- Full-strength statement: at quiescence no begun-and-unfinished future job remains whose awaited
event has happened. -/
def C06_full : Prop :=
  ∀ s, Reachable s → Quiescent s → AllGatesOpen s → ∀ (j : Nat) (b : Job), s.jobs[j]? = some b → b.begun = true → b.ended = true

/-- the wake-up tables, by position of the wake relative to the suspension -/
theorem during_the_poll :
    (wakeQueue .running).1 = .awokenWhileRunning ∧ wakeThread .running = .awokenWhileRunning ∧
    drainPending .awokenWhileRunning = (.running, false) ∧ runOnePending .awokenWhileRunning = (.running, .continue) :=
  ⟨wake_while_running_is_remembered.1, wake_while_running_is_remembered.2.1, remembered_wake_repolls.1, remembered_wake_repolls.2.1⟩

theorem after_parking :
    wakeQueue .waitingForWake = (.idle, true) ∧ reschedule .idle false = (.pending, true) ∧
    wakeThread .waitingForUnpark = .running ∧ wakeThreadUnparks = true ∧ parkCheck .running = .continue :=
  ⟨wake_parked.1, (reschedule_spec .idle false).1 ⟨rfl, rfl⟩, wake_parked.2.1, wake_parked.2.2.1, remembered_wake_repolls.2.2.2⟩

theorem under_a_polling_task (f : Nat) (e : Bool) :
    wakeQueue (.waitingForPoll f) = (.waitingForPoll f, true) ∧ reschedule (.waitingForPoll f) e = (.waitingForPoll f, true) ∧
    nextToRun (.waitingForPoll f) = (.running, true) ∧ (pollDecide f (.waitingForPoll f)).2.1 = .drain :=
  ⟨wake_parked.2.2.2.1 f, wake_parked.2.2.2.2.1 f e, wake_parked.2.2.2.2.2 f, by simp [pollDecide]⟩

theorem repeated_wakes_are_idempotent :
    (wakeQueue .awokenWhileRunning).1 = .awokenWhileRunning ∧ wakeThread .awokenWhileRunning = .awokenWhileRunning :=
  ⟨wake_while_running_is_remembered.2.2.1, wake_while_running_is_remembered.2.2.2⟩

theorem latch :
    latchWakeWith .woken = (.woken, true) ∧ latchWake .willWake = (.woken, true) ∧ latchWake .notWoken = (.woken, false) :=
  ⟨latch_spec.1, latch_spec.2.2.2.2.1, latch_spec.2.2.2.1⟩

theorem stale_queue_waker_harmless : wakeQueue .waitingForUnpark = (.waitingForUnpark, false) := wakeQueue_leaves_unpark

/-- **I_park.**  In every reachable state a queue in the `WaitingForUnpark` state has a sync caller in the park loop of
`run_one_job_now` for that queue: the state is written only by the caller that then parks, and the caller leaves the loop only
once the state has been taken out of `WaitingForUnpark` — which only `WakeThread::wake` does (`wake_parked`:
`wakeThread .waitingForUnpark = .running`, followed by the unpark).  So the wake-up of an operation suspended under a thread
inside `sync` finds that thread there, and the thread then sees `Running` and polls the operation again
(`parkCheck .running = .continue`). -/
theorem parked_caller_is_in_its_park_loop {s : State} (hr : Reachable s) {q : Nat} {v : JobQ} (hv : s.qs[q]? = some v)
    (hst : v.state = .waitingForUnpark) : ∃ a, (s.pcAt a).parks q = true :=
  (parkInv_reachable hr).park q (by rw [qSt_of hv, hst])

/-- only `run_one_job_now`, when it is about to park, writes `WaitingForUnpark`; only `WakeThread::wake` takes a queue out of it
(every other table leaves the state alone) -/
theorem only_the_parking_caller_writes_waitingForUnpark (st : QState) :
    ((runOnePending st).1 = .waitingForUnpark → st = .waitingForUnpark ∨ (runOnePending st).2 = .park) ∧
    ((wakeQueue st).1 = .waitingForUnpark → st = .waitingForUnpark) ∧ ((drainPending st).1 = .waitingForUnpark → st = .waitingForUnpark) ∧
    (wakeQueue .waitingForUnpark).1 = .waitingForUnpark ∧ wakeThread .waitingForUnpark = .running :=
  ⟨runOnePending_wfu, wakeQueue_wfu, drainPending_wfu, rfl, rfl⟩

/-- **I_wake (pool context).**  In every state reachable without polling a returned future (`ReachableNT`: any number of objects,
threads, `desync` / `sync` / `try_sync` / `future_desync` / `after` / `suspend` / resume / drop calls, any interleaving): a queue that a
pool thread has parked in `WaitingForWake` has a suspended operation at its head, and for that operation the queue's own waker
is still registered with the awaited event, or a `WakeQueue` wake-up for the queue is on its way (in a list of wakers being
fired, or about to run `WakeQueue::wake`, which turns `WaitingForWake` into `Idle` and reschedules: `after_parking`).
This is C06's "after it is parked" for the pool-thread context; `wake_between_poll_and_park_is_remembered` is
"during the poll / while the queue is being parked". -/
theorem parked_queue_has_its_wake_up {s : State} (hr : ReachableNT s) {q : Nat} {v : JobQ} (hv : s.qs[q]? = some v)
    (hst : v.state = .waitingForWake) : ∃ j rest, v.jobs = j :: rest ∧ (Reg s q j ∨ Flight s q) := by
  obtain ⟨j, rest, h1, h2⟩ := (ntWake_reachable hr).wake.parked q (by rw [qSt_of hv, hst])
  rw [qjobs_of hv] at h1
  exact ⟨j, rest, Option.some.inj h1, h2⟩

/-- **A wake-up that fires between the poll and the parking decision is not lost.**  A pool thread that has polled the
operation at the head of queue `q` (which registered the queue's waker) and is about to decide whether to park
(`pdPending`: `drain`'s critical section after `requeue`) finds: the waker still registered, or the wake-up on its way, or the
queue `AwokenWhileRunning` — in which case `drain` polls again instead of parking (`during_the_poll`). -/
theorem wake_between_poll_and_park_is_remembered {s : State} (hr : ReachableNT s) {a p q : Nat} (hpc : s.pcAt a = .pdPending p q) :
    ∃ j rest, s.qjobs q = some (j :: rest) ∧ (Reg s q j ∨ Flight s q ∨ s.qSt q = some .awokenWhileRunning) :=
  (ntWake_reachable hr).wake.poll2 a q (by rw [hpc]; rfl)

/-- the same, one critical section earlier: the job has been polled and is about to be put back at the head of the queue -/
theorem wake_after_poll_is_remembered {s : State} (hr : ReachableNT s) {a p q j : Nat} (hpc : s.pcAt a = .pdRequeue p q j) :
    Reg s q j ∨ Flight s q ∨ s.qSt q = some .awokenWhileRunning :=
  (ntWake_reachable hr).wake.poll1 a q j (by rw [hpc]; rfl)

/-- **I_wake (thread context).**  In every state reachable without polling a returned future: a queue in `WaitingForUnpark`
has a sync caller in the park loop of `run_one_job_now` holding the suspended job `j`, and that caller's own `WakeThread`
waker (for this queue and this caller's thread) is still registered with the event `j` awaits, or a `WakeThread` wake-up
for this queue and this thread is on its way — in a list of wakers being fired, or about to run `WakeThread::wake`, which
turns `WaitingForUnpark` into `Running` and unparks exactly this thread (`wake_parked`).  C06 "after it is parked" for
the thread-inside-`sync` context; together with I_park the caller is there to receive it. -/
theorem parked_caller_has_its_wake_up {s : State} (hr : ReachableNT s) {q : Nat} {v : JobQ} (hv : s.qs[q]? = some v)
    (hst : v.state = .waitingForUnpark) :
    ∃ a j, (s.pcAt a).parkedJ = some (q, j) ∧ (RegT s q j (s.threadOf a) ∨ FlightT s q (s.threadOf a)) := by
  obtain ⟨a, ha⟩ := parked_caller_is_in_its_park_loop hr.reachable hv hst
  obtain ⟨j, hj⟩ := parks_parkedJ ha
  exact ⟨a, j, hj, (wakeTInv_reachable hr).parked a q j hj (by rw [qSt_of hv, hst])⟩

/-- **A wake-up that fires between the caller's poll and its decision to park is not lost** (thread context).  A sync caller
that has polled job `j` of queue `q` (which registered its thread's waker) and is about to update the queue state
(`rjPending`: the critical section of `run_one_job_now` after `Poll::Pending`) finds the waker still registered, or the
wake-up on its way, or the queue `AwokenWhileRunning` — in which case it polls again instead of parking
(`runOnePending .awokenWhileRunning = (.running, .continue)`). -/
theorem thread_wake_between_poll_and_park_is_remembered {s : State} (hr : ReachableNT s) {a q j : Nat} {k : Pc}
    (hpc : s.pcAt a = .rjPending q j k) :
    RegT s q j (s.threadOf a) ∨ FlightT s q (s.threadOf a) ∨ s.qSt q = some .awokenWhileRunning :=
  (wakeTInv_reachable hr).polled a q j (by rw [hpc]; rfl)

/-- the premises of `parked_caller_has_its_wake_up` are satisfiable and its conclusion is not trivially true: a caller on
thread 1 parked on the suspended `future_desync` job 0 of queue 0, its waker registered -/
def parkedExample : State :=
  let s0 := initState 1 1 1
  { s0 with
    qs := [{ state := .waitingForUnpark, jobs := [], waiters := [] }]
    jobs := [{ q := 0, kind := .fut 0 (some 0) 0, ph := .held 0, begun := true, ended := false, reg := some (.thread 0 1) }]
    acts := [{ thread := 1, pc := .rjPark 0 0 (.sdCheck 0 0), parent := none, child := none, woken := false, result := none, mode := .await, once := false }] }

example : parkedExample.qSt 0 = some .waitingForUnpark ∧ (parkedExample.pcAt 0).parkedJ = some (0, 0) ∧
    RegT parkedExample 0 0 (parkedExample.threadOf 0) ∧ ¬ FlightT parkedExample 0 1 ∧ ¬ RegT parkedExample 0 0 2 := by
  refine ⟨rfl, rfl, rfl, ?_, fun h => by cases h⟩
  rintro ⟨b, hb⟩
  cases b with
  | zero => cases hb
  | succ n => cases hb

/-- what the caller does with a remembered wake-up, and what the wake-up does to a parked caller -/
theorem thread_context_tables :
    runOnePending .awokenWhileRunning = (.running, .continue) ∧ runOnePending .running = (.waitingForUnpark, .park) ∧
    wakeThread .running = .awokenWhileRunning ∧ wakeThread .waitingForUnpark = .running ∧
    parkCheck .running = .continue ∧ parkCheck .waitingForUnpark = .park := ⟨rfl, rfl, rfl, rfl, rfl, rfl⟩

/-- an activity never changes thread, so "this caller's thread" in the statements above is well defined along an execution -/
theorem activities_keep_their_thread {s s' : State} {a : Nat} {o : Obs} (hs : stepAct s a = some (s', o)) (b : Nat)
    (hb : b < s.acts.length) : s'.threadOf b = s.threadOf b := threadOf_stepAct hs b hb

/-- **The `DrainWaker` latch holds a waker exactly while it is armed**, in every reachable state (every kind of call, the
task-context ones included; `LatchInv`, inductive over all program counters).  With the two latch tables (`latch`) this is the
latch's whole contract: a wake-up that arrives before `wake_with` finds `NotWoken` with nothing stored and leaves `Woken`, and
`wake_with` then fires the waker it is given at once; a wake-up that arrives after finds `WillWakeWithWaker` with the waker
stored, fires it and takes it out — so the waker handed to `wake_with` is fired exactly once whichever way the race goes, and
never twice.  The next link of the chain (what the latch and the `DoubleWaker` hold) is `ShapeInv` below; what is *not* proved for
this context is that the latch of the job at the head of a `WaitingForPoll` queue is the one registered with the awaited event
(the analogue of `parked_queue_has_its_wake_up` for the polling task), which rests on conformance and the oracles. -/
theorem latch_holds_a_waker_iff_armed {s : State} (hr : Reachable s) {l : Nat} {st : Latch} {w : Option Waker}
    (hl : s.latches[l]? = some (st, w)) : w.isSome = true ↔ st = .willWake :=
  (latchInv_reachable hr).ok l st w hl

/-- non-vacuity: an armed latch with its waker, and an unarmed one without -/
example : LatchInv { initState 1 0 1 with latches := [(.willWake, some (.queue 0)), (.woken, none), (.notWoken, none)] } := by
  refine ⟨fun l st w hl => ?_⟩
  match l with
  | 0 | 1 | 2 => cases hl; decide
  | n + 3 => cases hl

/-- **A wake-up that goes through a `DrainWaker` latch ends at the queue's own waker after at most two hops**, in every reachable
state (`ShapeInv`, inductive over all program counters and environment steps): the waker stored in a latch is the queue's
`WakeQueue` waker or a `DoubleWaker` — never a thread waker, a bare task waker or another latch. -/
theorem latch_holds_queue_or_double_waker {s : State} (hr : Reachable s) {l : Nat} {st : Latch} {w : Waker}
    (hl : s.latches[l]? = some (st, some w)) : (∃ q, w = .queue q) ∨ (∃ d, w = .double d) := by
  have h := (shapeInv_reachable hr).lat l st w hl
  cases w with
  | queue q => exact .inl ⟨q, rfl⟩
  | double d => exact .inr ⟨d, rfl⟩
  | _ => cases h

/-- **A `DoubleWaker` that has not been fired holds a queue waker and the polling task's waker** (so firing it reschedules the
queue — the operation can be carried on by a pool thread — *and* has the task polled again), in every reachable state. -/
theorem double_waker_targets_queue_and_task {s : State} (hr : Reachable s) {d : Nat} {w1 w2 : Waker}
    (hd : s.doubles[d]? = some (some (w1, w2))) : ∃ q t, w1 = .queue q ∧ w2 = .task t :=
  (shapeInv_reachable hr).dbl d w1 w2 hd

/-- every `wake_with` in progress — at the head of a program counter or inside a continuation — hands the latch such a waker -/
theorem wake_with_hands_over_queue_or_double {s : State} (hr : Reachable s) (b : Nat) : (s.pcAt b).ws = true :=
  (shapeInv_reachable hr).ws b

/-- the number of further wakers a waker can lead to -/
def _root_.Desync.Waker.hops : Waker → Nat
  | .latch _ => 2
  | .double _ => 1
  | _ => 0

/-- **Firing an armed latch hands on a waker that is at most one hop from its targets** (one step of the model, any reachable
state): `DrainWaker::wake` on a latch that is `WillWakeWithWaker` takes the stored waker out and fires exactly it, and that waker is
the queue's own (`hops = 0`) or a `DoubleWaker` (`hops = 1`, whose two targets have `hops = 0` by
`double_waker_targets_queue_and_task`) — a wake-up never circulates among latches. -/
theorem armed_latch_fires_its_waker {s : State} (hr : Reachable s) {a l : Nat} {act : Act} {k : Pc} {w : Waker}
    (ha : s.acts[a]? = some act) (hc : act.child = none) (hpc : act.pc = .lwCs l k)
    (hl : s.latches[l]? = some (.willWake, some w)) :
    stepAct s a = some (({ s with latches := s.latches.set l (.woken, none) }).goto a (.waking [w] k), .csW l) ∧ w.hops ≤ 1 := by
  refine ⟨?_, ?_⟩
  · unfold stepAct
    simp only [ha, hc, hpc, hl, latch.2.1, Option.isSome_none, Bool.false_eq_true, ↓reduceIte]
  · rcases latch_holds_queue_or_double_waker hr hl with ⟨q, rfl⟩ | ⟨d, rfl⟩
    · exact Nat.zero_le 1
    · exact Nat.le_refl 1

/-- firing a `DoubleWaker` empties it and wakes both of its targets, queue first (one step of the model) -/
theorem double_waker_fires_both {s : State} {a d : Nat} {act : Act} {k : Pc} {w1 w2 : Waker}
    (ha : s.acts[a]? = some act) (hc : act.child = none) (hpc : act.pc = .dwCs d k) (hd : s.doubles[d]? = some (some (w1, w2))) :
    stepAct s a = some (({ s with doubles := s.doubles.set d none }).goto a (.waking [w1, w2] k), .csD d) := by
  unfold stepAct
  simp only [ha, hc, hpc, Option.isSome_none, Bool.false_eq_true, ↓reduceIte, hd]

/-- non-vacuity: an armed latch holding a double waker, the double waker holding its queue and task wakers -/
example : ShapeInv { initState 1 0 1 with latches := [(.willWake, some (.double 0))], doubles := [some (.queue 0, .task 3)] } := by
  refine ⟨fun _ => rfl, fun d w1 w2 hd => ?_, fun l st w hl => ?_⟩
  · match d with
    | 0 => cases hd; exact ⟨0, 3, rfl, rfl⟩
    | n + 1 => cases hd
  · match l with
    | 0 => cases hl; rfl
    | n + 1 => cases hl

/-- **The waker a suspended operation has registered with the event it awaits belongs to the operation's own queue**, in every
reachable state (every kind of call; `RegInv`, inductive over all program counters and environment steps, using the job
invariant of C01 for "the context that polls a job works for the job's queue"): it is the `WakeQueue` waker of the queue the
operation was scheduled on (pool-thread context), a `WakeThread` waker for that queue (a caller inside `sync`), or a
`DrainWaker` latch (polling task; `latch_holds_queue_or_double_waker` says where that leads).  So the wake-up of a suspended
operation can never land on another object's queue. -/
theorem registered_waker_targets_own_queue {s : State} (hr : Reachable s) {j : Nat} {jb : Job} {w : Waker}
    (hj : s.jobs[j]? = some jb) (hreg : jb.reg = some w) :
    w = .queue jb.q ∨ (∃ t, w = .thread jb.q t) ∨ (∃ l, w = .latch l) :=
  Waker.forQ_cases (regInv_reachable hr j jb w hj hreg)

/-- non-vacuity: a suspended operation of queue 1 with the queue's waker registered -/
example : RegInv { initState 2 1 1 with
    jobs := [{ q := 1, kind := .fut 0 (some 0) 0, ph := .queued, begun := true, ended := false, reg := some (.queue 1) }] } := by
  intro j jb w hj hr
  match j with
  | 0 => cases hj; cases hr; rfl
  | n + 1 => cases hj

/-- the executions the `ReachableNT` theorems above quantify over never enter the task-context code -/
theorem no_task_context_without_polling {s : State} (hr : ReachableNT s) (b : Nat) : (s.pcAt b).noTask = true :=
  (ntWake_reachable hr).nt.pcs b

end Desync.C06
