/-
C08 — future_sync runs in its slot and cancels cleanly when dropped.
-/
import DesyncModel.Spec
import DesyncModel.Tables.FutureDrop
import DesyncModel.Tables.Claim
import DesyncModel.FactSyncFuture
import DesyncModel.Lemmas
import DesyncModel.Setters
import DesyncModel.Inv.Drain
import DesyncModel.Inv.Slot
import DesyncModel.Inv.DoneWaker
import DesyncModel.Props.C07

namespace Desync.C08
open Desync Gen

/-- Full-strength statement of the ordering half: in every reachable state, while the user operation
of a SyncFuture is open (closure invoked, future neither completed nor destroyed) its slot job has
been begun and has not ended — so by C01/C02 no other operation of the queue is open. -/
def slot_only_full : Prop :=
  ∀ s, Reachable s → ∀ (u : Nat) (sf : SyncFut), s.sfs[u]? = some sf → sf.userBegun = true → sf.userEnded = false →
    sf.readySent = true ∧ sf.doneSent = false

/-- The user's closure is invoked only after the slot job has sent `queue_ready` (model step `sfRecv`). -/
theorem starts_only_in_slot (s s' : State) (a u : Nat) (act : Act) (o : Obs) (sf : SyncFut)
    (ha : s.acts[a]? = some act) (hc : act.child = none) (hpc : act.pc = .sfRecv u) (hu : s.sfs[u]? = some sf)
    (hstep : stepAct s a = some (s', o)) (hbeg : o = .beg sf.op) : sf.readySent = true := by
  unfold stepAct at hstep
  simp only [ha, hc, hpc, hu, Option.isSome_none, Bool.false_eq_true, ↓reduceIte] at hstep
  split at hstep
  · assumption
  · obtain ⟨_, rfl⟩ := Prod.mk.inj (Option.some.inj hstep)
    cases hbeg

/-- Dropping the returned future destroys the user future FIRST (event `cancel`, if the operation was
open), then drops the scheduler future (which hands back a queue that is waiting to be polled by it: `fdDrop`), and only
then releases the slot (`doneSent`): separate steps in this order ... -/
theorem drop_destroys_then_releases (s s' : State) (a u : Nat) (act : Act) (o : Obs) (sf : SyncFut)
    (ha : s.acts[a]? = some act) (hc : act.child = none) (hpc : act.pc = .sfDrop u) (hu : s.sfs[u]? = some sf)
    (hstep : stepAct s a = some (s', o)) :
    ∃ sf' act', s'.sfs[u]? = some sf' ∧ sf'.doneSent = sf.doneSent ∧ (sf.userBegun = true → sf'.userEnded = true) ∧
      s'.acts[a]? = some act' ∧ act'.pc = .fdDrop sf.f (.sfDropDone u) := by
  unfold stepAct at hstep
  simp only [ha, hc, hpc, hu, Option.isSome_none, Bool.false_eq_true, ↓reduceIte] at hstep
  have : ∃ sf', s' = (s.setSf u sf').goto a (.fdDrop sf.f (.sfDropDone u)) ∧ sf'.doneSent = sf.doneSent ∧
      (sf.userBegun = true → sf'.userEnded = true) := by
    split at hstep
    · obtain ⟨rfl, -⟩ := Prod.mk.inj (Option.some.inj hstep)
      exact ⟨_, rfl, rfl, fun _ => rfl⟩
    · next hnot =>
      obtain ⟨rfl, -⟩ := Prod.mk.inj (Option.some.inj hstep)
      refine ⟨_, rfl, rfl, fun hb => ?_⟩
      cases he : sf.userEnded with
      | true => rfl
      | false => simp [hb, he] at hnot
  obtain ⟨sf', rfl, h1, h2⟩ := this
  exact ⟨sf', _, by simp [State.setSf, lt_of_getElem?_some hu], h1, h2, acts_goto_self _ (by simpa using ha), rfl⟩

/-- ... which is the order the code has: the user future field comes before the completion sender and
there is no hand-written Drop that could act earlier (generated facts). -/
theorem drop_order_in_code :
    syncFutureFields = ["state", "scheduler_future", "task_finished"] ∧ syncFutureCustomDrop = false :=
  ⟨syncFuture_drop_order, syncFuture_no_custom_drop⟩

/-- the slot job treats a dropped completion sender like a completed operation: the queue is released -/
theorem cancelled_slot_continues (s : State) (u : Nat) (sf : SyncFut) (hu : s.sfs[u]? = some sf) (hd : sf.doneSent = true) :
    s.sfDone u = true := by
  simp [State.sfDone, hu, hd]

/-- a sibling future's `waitingForPoll` is never taken over (needed for nested awaits) -/
theorem sibling_not_stolen (self f : Nat) (h : f ≠ self) : pollDecide self (.waitingForPoll f) = (.waitingForPoll f, .wait, true) :=
  pollDecide_other_waits self f h

/-- a cancelled future_sync whose scheduler future was the designated poller of the queue releases the queue: the queue can be
`waitingForPoll f` only for a future of its own whose flag is set, which is exactly when `Drop` hands it back (`DrainInv`) -/
theorem cancelled_poller_is_draining {s : State} (hr : Reachable s) {q f : Nat} {v : JobQ}
    (hv : s.qs[q]? = some v) (hst : v.state = .waitingForPoll f) :
    ∃ fu, s.futs[f]? = some fu ∧ fu.draining = true ∧ fu.q = q :=
  designated_poller_is_draining hr hv hst

/-- **The operation of `future_sync` runs only inside its slot in the queue order** (the start half, for every reachable state):
if the user operation of a sync-future has been begun, a slot job of that sync-future has been begun, and every operation
accepted on the object before that slot job has ended.  (`SlotInv`: `userBegun → readySent → slot job begun`, inductive over all
program counters, with `JobMono` — no step removes a job, changes its kind or resets `begun` — and C02.) -/
theorem operation_starts_in_its_slot {s : State} (hr : Reachable s) {u : Nat} {sf : SyncFut} (hu : s.sfs[u]? = some sf) (hb : sf.userBegun = true) :
    ∃ (j : Nat) (jb : Job) (r : Nat), s.jobs[j]? = some jb ∧ jb.kind = JobKind.slot u r ∧ jb.begun = true ∧
      ∀ (j1 : Nat) (b1 : Job), s.jobs[j1]? = some b1 → b1.q = jb.q → j1 < j → b1.ended = true :=
  future_sync_starts_in_its_slot hr hu hb

/-- **The slot is released on the right object**: in every reachable state the waker the slot job of `future_sync` has left on the
`task_finished` channel is the `WakeQueue` waker of *the sync-future's own queue*, a `WakeThread` waker for that queue, or a
latch (`DoneOk`: inductive over all program counters and environment steps; the slot job of sync-future `u` sits in `u`'s queue
— `KindInv` — and the context polling it works for that queue — the job invariant of C01).  So when the user's future completes,
or the `SyncFuture` is dropped and its sender with it, the wake-up reaches the queue that holds the slot. -/
theorem slot_completion_wakes_the_futures_own_queue {s : State} (hr : Reachable s) {u : Nat} {sf : SyncFut} {w : Waker}
    (hu : s.sfs[u]? = some sf) (hw : sf.doneWaker = some w) :
    w = .queue sf.q ∨ (∃ t, w = .thread sf.q t) ∨ (∃ l, w = .latch l) :=
  Waker.forQ_cases (doneOk_reachable hr u sf w hu hw)

/-- the slot job of a sync-future is a job of the sync-future's queue, and signals a future of that queue -/
theorem slot_job_sits_in_its_sync_futures_queue {s : State} (hr : Reachable s) {j u r : Nat} {jb : Job}
    (hj : s.jobs[j]? = some jb) (hk : jb.kind = .slot u r) :
    (∃ fu, s.futs[r]? = some fu ∧ fu.q = jb.q) ∧ (∃ sf, s.sfs[u]? = some sf ∧ sf.q = jb.q) :=
  (C07.job_futures_belong_to_the_jobs_queue hr hj).2.2.1 u r hk

end Desync.C08
