/-
C10 — different Desync objects make progress independently.
-/
import DesyncModel.Spec
import DesyncModel.Tables.Pool
import DesyncModel.Inv.WatchReach

namespace Desync.C10
open Desync Gen

/-- Full-strength statement: at quiescence, if fewer pool threads are blocked than the maximum allows,
every job whose queue is not behind a closed gate is done. (Stated; the quiescence proof is in progress.) -/
def C10_full : Prop :=
  ∀ s, Reachable s → Quiescent s → 1 ≤ s.maxThreads → AllGatesOpen s → NoCallInProgress s → AllDone s

/-- a queue is handed to a dormant thread or a new thread is spawned while below the maximum -/
theorem spawn_below_max (len max : Nat) (h : len < max) : spawnAllowed len max = true :=
  (spawn_only_below_max len max).mpr h

/-- a pool thread keeps pulling: each popped entry is either taken or dropped unchanged, never lost in a third way -/
theorem pop_takes_or_skips (st : QState) :
    ((nextToRun st).2 = true ∧ (nextToRun st).1 = .running) ∨ ((nextToRun st).2 = false ∧ (nextToRun st).1 = st) := by
  cases st <;> simp [nextToRun]

theorem scan_waits_for_busy_flag : dormantScanBlocks = true := dormant_scan_blocks

/-- **No lost pool wake-up.**  Work for another object that reaches the schedule while pool threads are blocked in jobs is
never left with nobody to serve it: a busy thread that will look at the schedule again, or a `schedule_thread` call that
will find an idle thread or spawn one (it gives up only with the vector at the maximum it read: `gives_up_only_at_max`). -/
theorem no_lost_pool_wakeup {s : State} (hr : ReachableNZ s) (hne : s.schedule ≠ []) : (∃ p, Watching s p) ∨ (∃ a, GoodSt s a) :=
  (watchInv_reachable hr).sched hne

/-- `schedule_thread` gives up without spawning only when the vector holds at least as many threads as the maximum it read -/
theorem gives_up_only_at_max (len m : Nat) (h : spawnAllowed len m = false) : m ≤ len :=
  Nat.le_of_not_lt fun hlt => by rw [(spawn_only_below_max len m).mpr hlt] at h; cases h

end Desync.C10
