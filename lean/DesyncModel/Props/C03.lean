/-
C03 — no operation is lost, duplicated or left stranded.
-/
import DesyncModel.Spec
import DesyncModel.Tables.FutureDrop
import DesyncModel.Tables.Push
import DesyncModel.Tables.Pool
import DesyncModel.Inv.JobReach
import DesyncModel.Inv.Run
import DesyncModel.Inv.Owned
import DesyncModel.Inv.StepTables
import DesyncModel.Inv.WatchReach
import DesyncModel.Inv.Pend
import DesyncModel.FactHandBack

namespace Desync.C03
open Desync Gen

/-- Full-strength statement: whenever the model has gone quiet (no internal step enabled), with a
pool of at least one thread allowed, all gates open and no call in progress, every queue is idle and
empty and every accepted job is done. -/
def C03_full : Prop :=
  ∀ s, Reachable s → Quiescent s → 1 ≤ s.maxThreads → AllGatesOpen s → NoCallInProgress s → AllDone s

/-- Scheduling on an idle queue marks it pending and puts it on the schedule (followed by
`schedule_thread`); in every other state somebody already owns or will reschedule the queue. -/
theorem first_job_schedules (st : QState) :
    ((desyncPush st).2 = .schedule ↔ st = .idle) ∧ (st = .idle → (desyncPush st).1 = .pending) :=
  ⟨(desyncPush_spec st).1, (desyncPush_spec st).2.1⟩

/-- Handing a queue back: idle and non-empty → pending and scheduled; idle and empty stays idle. -/
theorem hand_back (e : Bool) :
    reschedule .idle false = (.pending, true) ∧ reschedule .idle true = (.idle, false) :=
  ⟨((reschedule_spec .idle false).1 ⟨rfl, rfl⟩), ((reschedule_spec .idle true).2.1 ⟨rfl, rfl⟩)⟩

/-- A pool thread leaves a queue only when it is empty (then idle) or parked on a suspended job. -/
theorem drain_exit (st : QState) (e : Bool) (h : isRunning st = true) :
    (e = true → drainExit st e = (.idle, true)) ∧ (e = false → drainExit st e = (st, false)) :=
  ⟨fun he => (drainExit_spec st e).1 ⟨h, he⟩, fun he => (drainExit_spec st e).2 ⟨h, he⟩⟩

/-- A pending entry of the schedule is always taken by the pool thread that pops it. -/
theorem pending_is_taken : nextToRun .pending = (.running, true) := rfl

/-- The dormant scan cannot mistake a thread that is about to go dormant for a busy one. -/
theorem scan_sees_dormant : dormantScanBlocks = true := dormant_scan_blocks

/-- **No accepted operation is lost or duplicated (safety half of C03), in every reachable state**: an accepted job is in
exactly one place.  A job marked `queued` is in the list of its own queue, exactly once, and in no other queue's list;
a job marked `held a` is in the hands of exactly the activity `a`, whose program counter says so and which owns the run
right of the job's queue; a job marked `done` has ended (run to completion or destroyed).  The `stranded` half (a queued
job is eventually run) is `C03_full`, which is a quiescence statement and is decided by conformance + oracles. -/
theorem accepted_job_is_in_one_place {s : State} (hr : Reachable s) {j : Nat} {b : Job} (hb : s.jobs[j]? = some b) :
    (b.ph = .queued → ∃ v, s.qs[b.q]? = some v ∧ j ∈ v.jobs ∧ v.jobs.Nodup ∧
        ∀ q' v', s.qs[q']? = some v' → j ∈ v'.jobs → q' = b.q) ∧
    (∀ a, b.ph = .held a → (s.pcAt a).runningQ = some (j, b.q) ∧ (s.pcAt a).holds b.q = true ∧
        ∀ a', (s.pcAt a').runningQ = some (j, b.q) → a' = a) ∧
    (b.ph = .done → b.ended = true) := by
  obtain ⟨_, hf⟩ := fullInv_reachable hr
  have hpq := jobPQ_of hb
  refine ⟨fun hq => ?_, fun a ha => ?_, fun hd => ?_⟩
  · rw [hq] at hpq
    obtain ⟨l, hl, hmem⟩ := hf.job.member j b.q hpq
    obtain ⟨v, hv, rfl⟩ := Option.map_eq_some_iff.mp hl
    refine ⟨v, hv, hmem, hf.job.nodup b.q v.jobs hl, fun q' v' hv' hm' => ?_⟩
    have := hf.job.queued q' v'.jobs j (qjobs_of hv') hm'
    exact (Prod.mk.inj (Option.some.inj (this.symm.trans hpq))).2
  · rw [ha] at hpq
    refine ⟨hf.job.run2 a j b.q hpq, (held_job_owner_holds hr hb ha).1, fun a' hr' => ?_⟩
    have := hf.job.run1 a' j b.q hr'
    exact Phase.held.inj (Prod.mk.inj (Option.some.inj (this.symm.trans hpq))).1
  · rw [hd] at hpq
    exact jobE_of hb ▸ hf.ord.doneEnded j b.q hpq

/-- job ids are never reused: every job in the table, queued or not, has an id below the allocation counter, and the
list of a queue is strictly increasing (the order of acceptance) -/
theorem queue_lists_in_acceptance_order {s : State} (hr : Reachable s) {q : Nat} {v : JobQ} (hv : s.qs[q]? = some v) :
    v.jobs.Pairwise (· < ·) :=
  (fullInv_reachable hr).2.ord.sorted q v.jobs (qjobs_of hv)

/-- **No operation is run twice (the "duplicated" half of C03), in every reachable state**: the step that invokes the closure of
an operation (a `desync` / `sync` / `after` closure, or the closure `Desync::drop` queues) finds that it has not been invoked
before; and a job whose closure has been invoked is in no queue, so no runner can pick it up again.  (`RunInv`, inductive
over all program counters: Inv/Run.  Future operations — `future_desync`, `future_sync` — are polled
repeatedly by design; their single completion is `C07.result_signalled_at_most_once`.) -/
theorem closure_runs_at_most_once {s : State} (hr : Reachable s) {a j : Nat} {c : Ctx} {k : Pc} {jb : Job}
    (hpc : s.pcAt a = .jobStart j c k ∨ s.pcAt a = .jobAwait j c k) (hj : s.jobs[j]? = some jb) (hk : jb.kind.hasBody = true) :
    jb.begun = false :=
  closure_invoked_at_most_once hr hpc hj hk

theorem started_closure_job_is_never_requeued {s : State} (hr : Reachable s) {q j : Nat} {v : JobQ} {jb : Job}
    (hv : s.qs[q]? = some v) (hm : j ∈ v.jobs) (hj : s.jobs[j]? = some jb) (hk : jb.kind.hasBody = true) : jb.begun = false :=
  ran_job_not_queued hr hv hm hj hk

/-- **No queue is left marked as running once everybody has gone** (a piece of the "never stranded" half): in a reachable state
in which no activity is inside the code that runs a queue, no queue is `running`, `awokenWhileRunning` or
`waitingForUnpark` — states in which nobody else would ever touch it. -/
theorem no_queue_left_running {s : State} (hr : Reachable s) (hidle : ∀ a q, (s.pcAt a).holds q = false)
    {q : Nat} {v : JobQ} (hv : s.qs[q]? = some v) : v.state.held = false :=
  no_orphaned_running_queue hr hidle hv

/-- **No accepted operation is ever forgotten or changed** (two-state form, for every internal step of every activity): the step
keeps every job of the table, with the same kind (the same closure / future) and the same queue, and never resets `begun` or
`ended`.  Together with `accepted_job_is_in_one_place`: an accepted operation stays accounted for — queued, in a runner's hands,
or finished — forever. -/
theorem job_table_only_grows {s s' : State} {a : Nat} {o : Obs} (hs : stepAct s a = some (s', o)) : JobMono s s' :=
  jobMono_stepAct hs

/-! ### the schedule is never left unwatched (the pool half of "runs without any further API call being needed") -/

/-- **I_watch.**  In every state reachable without a maximum of zero being configured: if a queue is on the schedule then
some pool thread is busy and has not yet decided to go to sleep (it will look at the schedule again before it does), or a
`schedule_thread` call is under way that has found every thread it passed in that condition (and will spawn a thread or hand
the work to an idle one).  This is the invariant the defect F2 (a held busy flag treated as "busy") violated: the proof
uses the generated fact `dormantScanBlocks` (the scan waits for a held flag), so reverting that repair breaks it. -/
theorem scheduled_queue_is_watched {s : State} (hr : ReachableNZ s) (hne : s.schedule ≠ []) :
    (∃ p, Watching s p) ∨ (∃ a, GoodSt s a) :=
  (watchInv_reachable hr).sched hne

/-- a watching thread that is waiting for a message has one in its mailbox: it is not asleep for good -/
theorem watching_thread_is_not_asleep {s : State} (hr : ReachableNZ s) {p w : Nat} {pt : PThr} (hp : s.pthreads[p]? = some pt) (hb : pt.busy = true)
    (hw : s.po w = some p) (hrest : (s.cl w).rest = true) : 0 < pt.mailbox :=
  (watchInv_reachable hr).thr.restOk w p pt hw hp hb hrest

/-- **Quiet pool, empty schedule.**  When no `schedule_thread` call, no pool resizing and no pool-thread work is in
progress — every activity is outside the pool code or is a pool thread waiting for a message — and no message is in flight,
nothing is left on the schedule. -/
theorem quiet_pool_has_empty_schedule {s : State} (hr : ReachableNZ s)
    (hq : ∀ a, s.cl a = .neutral ∨ (s.cl a).rest = true) (hm : ∀ (p : Nat) (pt : PThr), s.pthreads[p]? = some pt → pt.mailbox = 0) : s.schedule = [] := by
  refine Decidable.byContradiction fun hne => ?_
  rcases scheduled_queue_is_watched hr hne with ⟨p, pt, w, h1, h2, h3, -⟩ | ⟨a, hg⟩
  · rcases hq w with h5 | h5
    · rcases poolOf_cls _ p h3 with ⟨ph, h6⟩ | ⟨ph, h6⟩ <;> cases h5.symm.trans h6
    · have := watching_thread_is_not_asleep hr h1 h2 h3 h5
      rw [hm p pt h1] at this
      cases this
  · obtain ⟨ph, h⟩ := hg.st
    rcases hq a with h5 | h5 <;> rw [h] at h5 <;> cases h5

/-- the premises of `quiet_pool_has_empty_schedule` and `scheduled_queue_is_watched` are satisfiable: a pool of one thread
that has been handed a queue -/
def watchedExample : State :=
  let s0 := initState 1 0 1
  { s0 with
    schedule := [0]
    pthreads := [{ busy := true, busyLock := none, mailbox := 1, hungUp := false, exited := false }]
    threadsVec := [0]
    acts := [{ thread := 1000, pc := .ptRecv 0, parent := none, child := none, woken := false, result := none, mode := .await, once := false }] }

example : watchedExample.schedule ≠ [] ∧ (∃ p, Watching watchedExample p) :=
  ⟨List.cons_ne_nil _ _, 0, _, 0, rfl, rfl, rfl, rfl⟩

/-- each pool thread is one activity, the threads of the vector are alive and have an open channel, and the vector lists
no thread twice -/
theorem pool_threads_are_accounted_for {s : State} (hr : ReachableNZ s) :
    (∀ a b p, s.po a = some p → s.po b = some p → a = b) ∧ (∀ p, p ∈ s.threadsVec → ∃ w, s.po w = some p) ∧
    (∀ p, p ∈ s.threadsVec → ∃ pt, s.pthreads[p]? = some pt ∧ pt.hungUp = false) ∧ s.threadsVec.Nodup :=
  let h := watchInv_reachable hr
  ⟨h.po.uniq, h.thr.live, h.thr.hv, h.thr.nodup⟩

/-- the busy flag of a pool thread and the lock of the threads vector are held by the activity whose program counter says so -/
theorem pool_locks_have_their_holders {s : State} (hr : ReachableNZ s) :
    (∀ b, (s.cl b).tlHeld = true → s.threadsLock = some b) ∧ (∀ b p, holdsBusy s b p → s.bl p = some b) :=
  let h := watchInv_reachable hr
  ⟨h.tl, h.bl.own⟩

/-- **I_pending.**  A queue in the `Pending` state is on the schedule, or in the hands of a call that is about to put it
there (`schedule_job_desync` / `reschedule_queue` between marking it pending and pushing it). -/
theorem pending_queue_is_scheduled {s : State} (hr : Reachable s) {q : Nat} {v : JobQ} (hv : s.qs[q]? = some v) (hp : v.state = .pending) :
    q ∈ s.schedule ∨ ∃ a, (s.pcAt a).pushes q = true :=
  (pendInv_reachable hr).pend q (by rw [qSt_of hv, hp])

/-- every call has returned and every pool thread is waiting for a message, with no message in flight -/
def AllQuiet (s : State) : Prop :=
  (∀ a, s.pcAt a = .ret ∨ s.pcAt a = .dead ∨ ∃ p, s.pcAt a = .ptRecv p ∨ s.pcAt a = .ptRecvd p) ∧
  (∀ (p : Nat) (pt : PThr), s.pthreads[p]? = some pt → pt.mailbox = 0)

/-- **Whenever all threads have gone quiet, nothing remains scheduled, pending or marked as running** (C03, last sentence;
the bookkeeping half: the queue states that remain are `Idle`, a queue parked on an external event that has not happened,
a queue waiting for a future nobody polls, and `Panicked`). -/
theorem quiet_means_nothing_pending_or_running {s : State} (hr : ReachableNZ s) (hq : AllQuiet s) :
    s.schedule = [] ∧ ∀ (q : Nat) (v : JobQ), s.qs[q]? = some v → v.state ≠ .pending ∧ v.state.held = false := by
  have hcl : ∀ a, s.cl a = .neutral ∨ (s.cl a).rest = true := by
    intro a
    rcases hq.1 a with h | h | ⟨p, h | h⟩ <;> rw [State.cl, h] <;> first | exact .inl rfl | exact .inr rfl
  have hsch := quiet_pool_has_empty_schedule hr hcl hq.2
  refine ⟨hsch, ?_⟩
  intro q v hv
  constructor
  · intro hp
    rcases pending_queue_is_scheduled hr.reachable hv hp with h1 | ⟨a, h1⟩
    · rw [hsch] at h1; cases h1
    · rcases hq.1 a with h | h | ⟨p, h | h⟩ <;> (rw [h] at h1; cases h1)
  · refine no_orphaned_running_queue hr.reachable ?_ hv
    intro a q'
    rcases hq.1 a with h | h | ⟨p, h | h⟩ <;> rw [h] <;> rfl

/-- the premises are satisfiable: the initial state is reachable and quiet -/
example : ReachableNZ (initState 2 1 3) ∧ AllQuiet (initState 2 1 3) :=
  ⟨ReachableNZ.init 2 1 3 (by decide), fun _ => .inr (.inl rfl), fun _ _ h => by cases h⟩

/-- the runners' hand-backs are unconditional in the source, as the model's `siIdle` / `sdIdle` / `sbStealIdle` / `dqIdle` steps are
(regenerated fact): a queue is never left in a "somebody is running it" state because its runner found it changed -/
theorem runners_hand_back_unconditionally : stateConditionalHandBacks = [] := hand_backs_are_unconditional

end Desync.C03
