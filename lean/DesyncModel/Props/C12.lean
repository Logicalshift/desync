/-
C12 — the stream returned by `pipe` yields one output per input, in order, then ends; a waiting consumer is always
woken; a producer throttled by back-pressure always resumes after the consumer reads.

Model: `DesyncModel.Pipe.Model` with `through = true`.
-/
import DesyncModel.Pipe.Reach
import DesyncModel.FactPipe

namespace Desync.C12
open Desync Desync.Pipe

/-- Full-strength statement over the pipe model, for every depth and every interleaving the model admits. -/
def C12_full : Prop :=
  ∀ s, Reachable s → s.through = true → s.outAlive = true → s.dropping = false →
    -- one output per input, in order, none lost, duplicated or reordered
    (s.delivered ++ s.core.pending ++ curOut s = s.processed.map f ∧ s.processed ++ cur s ++ s.inq = s.sent)
    -- the consumer is told the stream has ended only when the input has ended and every output has been delivered
    ∧ (s.core.closed = true → s.core.pending = [] → s.inClosed = true ∧ s.delivered = s.sent.map f)
    -- and it is told: once the input has ended and the pipe can do nothing more, the stream is closed or the producer
    -- is parked on back-pressure, to be released by the consumer's next read
    ∧ (Stuck s → s.inClosed = true → s.targetGone = false → s.core.closed = true ∨ slotArmed s s.core.bp = true)
    -- no lost consumer wake-up
    ∧ (s.consumerWaiting = true → (s.core.pending ≠ [] ∨ s.core.closed = true) → s.consumerWoken = true)
    -- back-pressure release: an idle producer with input waiting is parked in the back-pressure slot, and the consumer's
    -- next poll wakes it
    ∧ (Stuck s → s.pollFn = true → s.core.closed = false → (s.inq ≠ [] ∨ s.inClosed = true) →
        slotArmed s s.core.bp = true ∧ ∀ s', step s .cons = some s' → ∃ k, k ∈ s'.pendingWakes ∧ armed s' k = true)

theorem one_output_per_input (s : PState) (h : Reachable s) (ht : s.through = true) (ho : s.outAlive = true) (hd : s.dropping = false) :
    s.delivered ++ s.core.pending ++ curOut s = s.processed.map f ∧ s.processed ++ cur s ++ s.inq = s.sent := by
  have hh := (pinv_reachable h).hist
  refine ⟨?_, ?_⟩
  · rw [hh.deliv ho hd, hh.push ht]
  · rw [hh.proc, hh.yld]

/-- what the consumer knows when `poll_next` returns `None` -/
theorem end_means_all_delivered (s : PState) (h : Reachable s) (ho : s.outAlive = true) (hd : s.dropping = false)
    (hc : s.core.closed = true) (hp : s.core.pending = []) : s.inClosed = true ∧ s.delivered = s.sent.map f := by
  have inv := pinv_reachable h
  have e := inv.fin.closedEnd hc ho hd
  have d := inv.hist.deliv ho hd
  rw [hp, List.append_nil] at d
  exact ⟨e.1, by rw [d, e.2.2.1]⟩

/-- the consumer's `None` is exactly the `ended` flag set by `cons` -/
theorem none_only_when_closed (s s' : PState) (hs : step s .cons = some s') (he : s.ended = false) (he' : s'.ended = true) :
    s.core.closed = true ∧ s.core.pending = [] ∧ s.outAlive = true ∧ s.dropping = false := by
  cases Pipe.Step.of_step hs
  case consEnd ho hd hp hc => exact ⟨hc, hp, ho, hd⟩
  all_goals cases he.symm.trans he'

theorem consumer_always_woken (s : PState) (h : Reachable s) (ho : s.outAlive = true) (hd : s.dropping = false)
    (hw : s.consumerWaiting = true) (hav : s.core.pending ≠ [] ∨ s.core.closed = true) : s.consumerWoken = true := by
  have inv := pinv_reachable h
  rcases inv.cons.waiting hw with hn | hn
  · have := inv.cons.notifyOk ho hd hn
    rcases hav with hav | hav
    · exact absurd this.1 hav
    · rw [this.2] at hav; cases hav
  · exact hn

/-- back-pressure release -/
theorem throttled_producer_resumes (s : PState) (h : Reachable s) (hst : Stuck s) (hp : s.pollFn = true)
    (hc : s.core.closed = false) (hin : s.inq ≠ [] ∨ s.inClosed = true) :
    slotArmed s s.core.bp = true ∧ ∀ s', step s .cons = some s' → ∃ k, k ∈ s'.pendingWakes ∧ armed s' k = true := by
  have inv := pinv_reachable h
  have sf := stuck_facts inv.idx hst
  have w := inv.wake.wake hp (Or.inl sf.job) (fun _ => hc)
  have hb : slotArmed s s.core.bp = true := by
    rcases wake_source_when_stuck sf w with w | w
    · exact w.2.2
    · rcases hin with hin | hin
      · exact absurd w.2.1 hin
      · rw [w.2.2] at hin; cases hin
  refine ⟨hb, ?_⟩
  intro s' hs
  cases hbp : s.core.bp with
  | none => simp [slotArmed, hbp] at hb
  | some k =>
    simp only [slotArmed, hbp] at hb
    refine ⟨k, ?_⟩
    cases Pipe.Step.of_step hs
    case consEnd _ _ _ hcl => cases hc.symm.trans hcl
    all_goals exact ⟨by simp [hbp], hb⟩

/-- once the input has ended, a pipe that can do nothing more has closed its output or is parked on back-pressure -/
theorem ends_after_input_ends (s : PState) (h : Reachable s) (ht : s.through = true) (ho : s.outAlive = true)
    (hst : Stuck s) (hic : s.inClosed = true) (hg : s.targetGone = false) : s.core.closed = true ∨ slotArmed s s.core.bp = true := by
  cases hp : s.pollFn with
  | false => exact Or.inl ((pinv_reachable h).inp.doneOut ht hg ho (Or.inl hp))
  | true =>
    cases hc : s.core.closed with
    | true => exact Or.inl rfl
    | false => exact Or.inr (throttled_producer_resumes s h hst hp hc (Or.inr hic)).1

/-- **C12 holds in the pipe model.** -/
theorem C12_holds : C12_full := by
  intro s h ht ho hd
  exact ⟨one_output_per_input s h ht ho hd, end_means_all_delivered s h ho hd, ends_after_input_ends s h ht ho,
         consumer_always_woken s h ho hd, throttled_producer_resumes s h⟩

/-- non-vacuity: depth 1, two items sent; the first output is buffered, the producer is parked on back-pressure with
the second item waiting, and the pipe is idle -/
example : ∃ s, Reachable s ∧ s.through = true ∧ s.core.pending = [f 7] ∧ s.inq = [8] ∧ s.core.bp = some 2 ∧ s.job = none ∧ s.scheduled = 0 :=
  ⟨(runLabels (initP true 1) [.jobBegin, .prod, .prod, .inPending, .prod, .send 7, .wakeK 0, .schedule, .jobBegin, .prod, .prod,
      .yield 7, .item 7, .prod, .prod, .inPending, .prod, .send 8, .wakeK 1, .schedule, .jobBegin, .prod]).get (by decide),
   reachable_get _ _ _ (Reachable.init true 1), by decide, by decide, by decide, by decide, by decide, by decide⟩

end Desync.C12
