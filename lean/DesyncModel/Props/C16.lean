/-
C16 — dropping the stream returned by `pipe` shuts the pipe down, without the input having to produce anything
further: the strong reference on the Desync is released, the input stream and the processing closure are dropped,
whatever the producer was doing at the moment of the drop.

Model: `DesyncModel.Pipe.Model` with `through = true`.  "The input stays silent" = no `send`/`close` label is taken:
only the pipe's own (`internal`) steps run.  The theorem has two halves: the pipe's own steps cannot go on forever
(`internalRun_bounded`), and a state in which none of them is enabled is shut down (`shut_when_stuck`).
-/
import DesyncModel.Pipe.Reach
import DesyncModel.FactPipe

namespace Desync.C16
open Desync Desync.Pipe

def Shut (s : PState) : Prop :=
  s.pollFn = false ∧ s.streamDropped = true ∧ s.fnDropped = true ∧ s.strongHeld = false

/-- Full-strength statement: from every reachable state in which the output stream has been dropped — whatever the
producer was doing — every run of the pipe's own steps is finite, and when it cannot be extended the pipe is shut. -/
def C16_full : Prop :=
  ∀ s, Reachable s → s.through = true → s.outAlive = false →
    ∀ n s', InternalRun s n s' → n ≤ measure s ∧ (Stuck s' → Shut s')

/-- the drop itself: closes the core, flushes it, wakes the registered producer waker, queues the release of the target -/
theorem drop_effect (s s' : PState) (hs : step s .dropLock = some s') :
    s'.core.closed = true ∧ s'.core.pending = [] ∧ s'.core.nsc = none ∧ s'.onDropQueued = true
    ∧ (∀ k, s.core.nsc = some k → k ∈ s'.pendingWakes) := by
  cases Pipe.Step.of_step hs
  exact ⟨rfl, rfl, rfl, rfl, fun k hk => by simp [hk]⟩

/-- a dropped output stream stays dropped -/
theorem outAlive_stays_false {s s' : PState} {n : Nat} (hr : InternalRun s n s') (ho : s.outAlive = false) (ht : s.through = true) :
    s'.outAlive = false ∧ s'.through = true := by
  induction hr with
  | nil s => exact ⟨ho, ht⟩
  | cons l _ hs _ ih =>
    refine And.elim ih ?_
    cases Pipe.Step.of_step hs
    case dropDone => exact ⟨rfl, ht⟩
    all_goals exact ⟨ho, ht⟩

/-- **no leak**: once the output stream is gone, a pipe that can do nothing more has released everything -/
theorem shut_when_stuck (s : PState) (h : Reachable s) (ht : s.through = true) (ho : s.outAlive = false) (hst : Stuck s) : Shut s := by
  have inv := pinv_reachable h
  have sf := stuck_facts inv.idx hst
  have hh := sf.holdsFn inv.flag
  have hcl : s.core.closed = true := inv.flag.closedDrop ht (Or.inl ho)
  have hp : s.pollFn = false := by
    cases hp : s.pollFn with
    | false => rfl
    | true =>
      exfalso
      have hr := sf.refs hp
      have hcore : s.jobHasCore = false := by
        cases hc : s.jobHasCore with
        | false => rfl
        | true => have := inv.flag.hasCore hc; rw [hh] at this; cases this
      simp only [ctxRefs, coreLive, sf.scheduled, sf.polling, sf.job, sf.wakes, ho, hcore] at hr
      simp at hr
      -- the only owner left would be an armed waker held by the input: impossible, the drop reached it
      cases hiw : s.inWaker with
      | none => simp [slotArmed, hiw] at hr
      | some k =>
        simp only [slotArmed, hiw] at hr
        rcases inv.reg.reg ht hp (Or.inl sf.job) k hiw hr with ⟨_, hc⟩ | hm
        · rw [hcl] at hc; cases hc
        · rw [sf.wakes] at hm; cases hm
  refine ⟨hp, (sf.released inv.flag hp).1, (sf.released inv.flag hp).2, ?_⟩
  rcases inv.flag.strong (Or.inl ho) with hq | hq
  · rw [sf.onDrop] at hq; cases hq
  · exact hq

/-- **C16 holds in the pipe model.** -/
theorem C16_holds : C16_full := by
  intro s h ht ho n s' hr
  refine ⟨by have := internalRun_bounded hr; omega, ?_⟩
  intro hst
  have ⟨ho', ht'⟩ := outAlive_stays_false hr ho ht
  exact shut_when_stuck s' (internalRun_reachable h hr) ht' ho' hst

/-- non-vacuity, the three positions the property names.  (1) idle and registered with the input: -/
example : ∃ s, Reachable s ∧ s.through = true ∧ s.outAlive = false ∧ s.job = none ∧ s.inWaker = some 0 ∧ s.pendingWakes = [0] :=
  ⟨(runLabels (initP true 5) [.jobBegin, .prod, .prod, .inPending, .prod, .dropLock, .dropDone]).get (by decide),
   reachable_get _ _ _ (Reachable.init true 5), by decide, by decide, by decide, by decide, by decide⟩

/-- (2) mid-loop: the drop lands while the producer is processing an item -/
example : ∃ s, Reachable s ∧ s.through = true ∧ s.outAlive = false ∧ s.job = some (.process 7, 0) :=
  ⟨(runLabels (initP true 5) [.send 7, .jobBegin, .prod, .prod, .yield 7, .dropLock, .dropDone]).get (by decide),
   reachable_get _ _ _ (Reachable.init true 5), by decide, by decide, by decide⟩

/-- (3) throttled by back-pressure: the waker in `notify_stream_closed` is spent, the one in the back-pressure slot dies
with the core — the context loses its last owner -/
example : ∃ s, Reachable s ∧ s.through = true ∧ s.outAlive = false ∧ s.job = none ∧ s.pollFn = true ∧ ctxRefs s = false :=
  ⟨(runLabels (initP true 1) [.jobBegin, .prod, .prod, .inPending, .prod, .send 7, .wakeK 0, .schedule, .jobBegin, .prod, .prod,
      .yield 7, .item 7, .prod, .prod, .inPending, .prod, .send 8, .wakeK 1, .schedule, .jobBegin, .prod, .dropLock, .wakeK 1, .dropDone]).get (by decide),
   reachable_get _ _ _ (Reachable.init true 1), by decide, by decide, by decide, by decide, by decide⟩

end Desync.C16
