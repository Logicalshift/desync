/-
C02 — operations run in the order their scheduling calls were made.
-/
import DesyncModel.Spec
import DesyncModel.Tables.Sync
import DesyncModel.Tables.TrySync
import DesyncModel.Tables.Claim
import DesyncModel.FactFifo
import DesyncModel.Lemmas
import DesyncModel.Setters
import DesyncModel.Inv.JobReach

namespace Desync.C02
open Desync Gen

def C02_full : Prop := ∀ s, Reachable s → InOrder s

/-- Every scheduling call appends at the back; only `dequeue` pops (front) and only `requeue` pushes at the front. -/
theorem fifo_discipline : queueOps = queueOpsExpected := queueOps_only_fifo

/-- A closure runs without being queued (sync / try_sync immediate) only when the queue is idle AND
empty, so it cannot overtake anything that was accepted before it. -/
theorem immediate_only_if_empty (st : QState) (e : Bool) :
    ((syncDecide st e).2 = .immediate → st = .idle ∧ e = true) ∧ ((trySyncDecide st e).2 = .immediate → st = .idle ∧ e = true) :=
  ⟨(syncDecide_immediate_iff st e).mp, (trySync_immediate_iff st e).mp⟩

/-- In the model, a scheduling call's job is appended at the back of the queue, under the queue
lock, in the same step that decides what follows; job ids are allocated in that step, so the id
order of two jobs of one queue is the order in which they were accepted. -/
theorem desync_push_is_append (s s' : State) (a q : Nat) (kind : JobKind) (act : Act) (o : Obs) (v : JobQ)
    (ha : s.acts[a]? = some act) (hc : act.child = none) (hpc : act.pc = .dsPush q kind) (hq : s.qs[q]? = some v)
    (hstep : stepAct s a = some (s', o)) :
    ∃ v', s'.qs[q]? = some v' ∧ v'.jobs = v.jobs ++ [s.jobs.length] ∧ s'.jobs.length = s.jobs.length + 1 := by
  unfold stepAct at hstep
  simp only [ha, hc, hpc, hq, Option.isSome_none, Bool.false_eq_true, ↓reduceIte] at hstep
  -- the three outcomes differ only in where the caller goes next
  obtain ⟨pc, h⟩ : ∃ pc, some (State.goto _ a pc, Obs.csQ q) = some (s', o) := by
    split at hstep
    · exact ⟨_, hstep⟩
    · split at hstep <;> exact ⟨_, hstep⟩
  obtain ⟨rfl, -⟩ := Prod.mk.inj (Option.some.inj h)
  exact ⟨{ v with jobs := v.jobs ++ [s.jobs.length], state := (desyncPush v.state).1 },
    by simp [State.setQ, State.newJob, lt_of_getElem?_some hq], rfl, by simp [State.newJob]⟩

/-- **C02 holds in the model**: in every reachable state — any number of objects, threads and calls, any pool size,
any interleaving — an operation has begun only if every operation accepted earlier on the same object has ended
(job ids are allocated under the queue lock inside the scheduling call, so id order is acceptance order).
Proof: `inOrder_reachable`; the order invariant (`OrderInvF`: queue lists are increasing, the job in the hands of a
runner is older than every queued job of its queue, finished jobs have ended, a begun job has only ended predecessors)
is inductive over all 101 program counters and every environment step, together with the job invariant of C01. -/
theorem C02_holds : C02_full := fun _ hr => inOrder_reachable hr

/-- the queue lists are increasing in every reachable state: FIFO order is id order -/
theorem queue_lists_increasing {s : State} (hr : Reachable s) {q : Nat} {v : JobQ} (hv : s.qs[q]? = some v) : v.jobs.Pairwise (· < ·) :=
  (fullInv_reachable hr).2.ord.sorted q v.jobs (qjobs_of hv)

/-- non-vacuity: a reachable state with two jobs on one queue, the older one begun -/
example : ∃ s, Reachable s ∧ ∃ (b1 b2 : Job), s.jobs[0]? = some b1 ∧ s.jobs[1]? = some b2 ∧ b1.q = b2.q ∧ b1.begun = true := by
  refine ⟨_, Reachable.step (.act 1) (Reachable.step (.invoke 2 none (.desync 0)) (Reachable.step (.act 0) (Reachable.step (.invoke 1 none (.sync 0)) (Reachable.init 1 0 1) rfl) rfl) rfl) rfl, _, _, rfl, rfl, ?_, ?_⟩ <;> decide

end Desync.C02
