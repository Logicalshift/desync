/-
C09 — try_sync never blocks, never half-runs and never disturbs the queue.
-/
import DesyncModel.Spec
import DesyncModel.Tables.TrySync
import DesyncModel.FactTrySync
import DesyncModel.Lemmas
import DesyncModel.Inv.Owned
import DesyncModel.FactHandBack

namespace Desync.C09
open Desync Gen

/-- try_sync's decision is one critical section whose outcome is: run the closure (only on an idle,
empty queue, which is then marked running), or Busy with the queue state untouched, or a panic on a
panicked queue.  There is no waiting strategy. -/
theorem decision (st : QState) (e : Bool) :
    ((trySyncDecide st e).2 = .immediate ∧ st = .idle ∧ e = true ∧ (trySyncDecide st e).1 = .running) ∨
    ((trySyncDecide st e).2 = .busy ∧ (trySyncDecide st e).1 = st) ∨
    ((trySyncDecide st e).2 = .panic ∧ st = .panicked) := by
  cases st <;> cases e <;> simp [trySyncDecide]

/-- never blocks: the body of try_sync reaches no blocking function (generated structural fact) -/
theorem never_blocks : trySyncBlockingCalls = [] := trySync_no_blocking_calls

/-- A Busy outcome changes nothing but the caller's own program counter: the queue (state, jobs,
blocked callers), the schedule, the pool, every job and every other activity are untouched. -/
theorem busy_undisturbed (s s' : State) (a q : Nat) (b : Body) (act : Act) (o : Obs)
    (ha : s.acts[a]? = some act) (hc : act.child = none) (hpc : act.pc = .tsDecide q b)
    (hstep : stepAct s a = some (s', o)) (v : JobQ) (hq : s.qs[q]? = some v)
    (hbusy : (trySyncDecide v.state v.jobs.isEmpty).2 = .busy) :
    s'.qs = s.qs ∧ s'.jobs = s.jobs ∧ s'.schedule = s.schedule ∧ s'.holder = s.holder ∧
    s'.pthreads = s.pthreads ∧ s'.threadsVec = s.threadsVec ∧ s'.futs = s.futs ∧
    (∀ a', a' ≠ a → s'.acts[a']? = s.acts[a']?) ∧ (∃ act', s'.acts[a]? = some act' ∧ act'.pc = .ret) := by
  have hst := trySync_busy_undisturbed v.state v.jobs.isEmpty hbusy
  unfold stepAct at hstep
  simp only [ha, hc, hpc, hq, Option.isSome_none, Bool.false_eq_true, ↓reduceIte, hbusy] at hstep
  obtain ⟨rfl, _⟩ := Prod.mk.inj (Option.some.inj hstep)
  have hqset : s.qs.set q { v with state := (trySyncDecide v.state v.jobs.isEmpty).1 } = s.qs := by
    rw [hst]; exact list_set_same _ _ _ hq
  refine ⟨?_, rfl, rfl, rfl, rfl, rfl, rfl, ?_, ?_⟩
  · simp [State.setAct, State.setQ, hqset]
  · intro a' hne
    simp [State.setAct, State.setQ, Ne.symm hne]
  · exact ⟨{ act with pc := .ret, result := some 1 }, by simp [State.setAct, State.setQ, lt_of_getElem?_some ha, hc], rfl⟩

/-- A try_sync that runs its closure does so as the holder of the queue, from an idle and empty queue. -/
theorem immediate_claims (st : QState) (e : Bool) (h : (trySyncDecide st e).2 = .immediate) :
    st = .idle ∧ e = true ∧ (trySyncDecide st e).1 = .running := by
  have := (trySync_immediate_iff st e).mp h
  exact ⟨this.1, this.2, trySync_immediate_running st e h⟩

/-- Full-strength statement of the liveness half (once an object has nothing queued or in progress
try_sync succeeds): in every reachable quiescent state every queue is idle and empty, on which
`trySyncDecide` answers `immediate`.  Proved from C03's quiescence theorem when that is available;
the table half is proved here. -/
theorem idle_empty_succeeds : (trySyncDecide .idle true) = (.running, .immediate) := rfl

def idle_succeeds_full : Prop :=
  ∀ s, Reachable s → Quiescent s → NoCallInProgress s → AllGatesOpen s → 1 ≤ s.maxThreads →
    ∀ (q : Nat) (v : JobQ), s.qs[q]? = some v → (trySyncDecide v.state v.jobs.isEmpty).2 = .immediate

/-- **try_sync never leaves a queue half-claimed** (and nothing else does): in every reachable state a queue that is marked
`running` (or `awokenWhileRunning` / `waitingForUnpark`) has an activity inside the code that runs it — so a `try_sync` that
has returned, whatever it returned, has not left the queue marked as running (defect F1 did exactly that).
(`OwnedInv`, inductive over all program counters: Inv/Owned.) -/
theorem running_queue_is_being_run {s : State} (hr : Reachable s) {q : Nat} {v : JobQ} (hv : s.qs[q]? = some v) (hheld : v.state.held = true) :
    ∃ a, (s.pcAt a).holds q = true :=
  running_queue_has_a_runner hr hv hheld

/-- the runners' hand-backs are unconditional in the source, as the model's `siIdle` / `sdIdle` / `sbStealIdle` / `dqIdle` steps are
(regenerated fact): a queue is never left in a "somebody is running it" state because its runner found it changed -/
theorem runners_hand_back_unconditionally : stateConditionalHandBacks = [] := hand_backs_are_unconditional

end Desync.C09
