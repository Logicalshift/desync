/- A structural fact read from /repo/src by the translator (Generated.lean), kept in its own module so that only the properties that rely on it depend on it. -/
import DesyncModel.Types
import DesyncModel.Generated

namespace Desync
open Gen

/-- the user future (`state`) is dropped before the completion sender (`task_finished`). -/
theorem syncFuture_drop_order : syncFutureFields = ["state", "scheduler_future", "task_finished"] := rfl

/-- cancellation is carried by the field drop order alone: there is no `Drop` impl that could act first -/
theorem syncFuture_no_custom_drop : syncFutureCustomDrop = false := rfl

end Desync
