/- List facts the proofs use: an entry of a list changed at one place or extended, a function changed at one place, `List.Keeps`. -/
namespace Desync

theorem list_set_same {α : Type} (l : List α) (i : Nat) (v : α) (h : l[i]? = some v) : l.set i v = l := by
  obtain ⟨hlt, rfl⟩ := List.getElem?_eq_some_iff.mp h
  exact List.set_getElem_self hlt

theorem lt_of_getElem?_some {α : Type} {l : List α} {i : Nat} {v : α} (h : l[i]? = some v) : i < l.length :=
  (List.getElem?_eq_some_iff.mp h).1

theorem getElem?_set_cases {α : Type} {l : List α} {i0 i : Nat} {v x : α} (h : (l.set i0 v)[i]? = some x) :
    (i = i0 ∧ x = v) ∨ l[i]? = some x := by
  rw [List.getElem?_set] at h
  split at h
  · next e =>
    split at h
    · exact .inl ⟨e.symm, (Option.some.inj h).symm⟩
    · cases h
  · exact .inr h

theorem getElem?_append_cases {α : Type} {l l0 : List α} {i : Nat} {x : α} (h : (l ++ l0)[i]? = some x) :
    l[i]? = some x ∨ (l.length ≤ i ∧ x ∈ l0) := by
  rw [List.getElem?_append] at h
  split at h
  · exact .inl h
  · next hge => exact .inr ⟨Nat.le_of_not_lt hge, List.mem_of_getElem? h⟩

theorem getElem?_set_of {α : Type} {l : List α} {j : Nat} {b : α} (h : l[j]? = some b) (v : α) (i : Nat) :
    (l.set j v)[i]? = if i = j then some v else l[i]? := by
  rw [List.getElem?_set]
  by_cases e : i = j
  · simp [e, lt_of_getElem?_some h]
  · simp [e, Ne.symm e]

theorem getElem?_append_one {α : Type} (l : List α) (x : α) (i : Nat) :
    (l ++ [x])[i]? = if i = l.length then some x else l[i]? := by
  by_cases e : i = l.length
  · simp [e]
  · rcases Nat.lt_or_ge i l.length with hlt | hge
    · simp [e, List.getElem?_append_left hlt]
    · rw [List.getElem?_eq_none (by simp; omega), List.getElem?_eq_none hge]; simp [e]

/-- an update of an entry of a table that does not change what `f` reads of it, as `simp` sees it -/
theorem map_set_keep {α β : Type} {f : α → β} {l : List α} {j : Nat} {b : α} (h : l[j]? = some b) : (l.map f).set j (f b) = l.map f :=
  list_set_same _ _ _ (by simp [h])

section
variable {β : Type} {f f' : Nat → β} {i j : Nat} {x y : β}

theorem upd_self (h : ∀ i, f' i = if i = j then x else f i) : f' j = x := (h j).trans (if_pos rfl)

theorem upd_ne (h : ∀ i, f' i = if i = j then x else f i) (hi : i ≠ j) : f' i = f i := (h i).trans (if_neg hi)

theorem upd_same (h : ∀ i, f' i = if i = j then x else f i) (hx : x = f j) (i : Nat) : f' i = f i := by
  rw [h]; split
  · next e => rw [hx, e]
  · rfl

theorem upd_cases (h : ∀ i, f' i = if i = j then x else f i) (hi : f' i = y) : i = j ∧ x = y ∨ i ≠ j ∧ f i = y := by
  rw [h] at hi
  split at hi
  · exact .inl ⟨‹_›, hi⟩
  · exact .inr ⟨‹_›, hi⟩

theorem upd_old (h : ∀ i, f' i = if i = j then x else f i) (hi : f' i = y) (hx : x ≠ y) : i ≠ j ∧ f i = y :=
  (upd_cases h hi).resolve_left fun e => hx e.2

end

end Desync

/-- `l'` is a later version of the table `l`: every entry of `l` is still there, changed at most along `R`.  The lemmas take the
later table through an equation, so that they apply to a field of a state whatever the term of the state is. -/
def List.Keeps {α : Type} (R : α → α → Prop) (l l' : List α) : Prop := ∀ (i : Nat) (x : α), l[i]? = some x → ∃ y, l'[i]? = some y ∧ R x y

theorem List.Keeps.refl {α : Type} {R : α → α → Prop} {l l' : List α} (hR : ∀ x, R x x) (e : l' = l) : List.Keeps R l l' :=
  fun _ x h => ⟨x, e ▸ h, hR x⟩

theorem List.Keeps.trans {α : Type} {R : α → α → Prop} {l1 l2 l3 : List α} (hR : ∀ x y z, R x y → R y z → R x z)
    (h1 : List.Keeps R l1 l2) (h2 : List.Keeps R l2 l3) : List.Keeps R l1 l3 := by
  intro i x hx
  obtain ⟨y, hy, r1⟩ := h1 i x hx
  obtain ⟨z, hz, r2⟩ := h2 i y hy
  exact ⟨z, hz, hR x y z r1 r2⟩

theorem List.Keeps.append {α : Type} {R : α → α → Prop} {l l' l0 : List α} (hR : ∀ x, R x x) (e : l' = l ++ l0) : List.Keeps R l l' :=
  fun _ x hx => ⟨x, by rw [e, List.getElem?_append_left (Desync.lt_of_getElem?_some hx)]; exact hx, hR x⟩

theorem List.Keeps.set {α : Type} {R : α → α → Prop} {l l' : List α} {i0 : Nat} {x0 v : α} (hR : ∀ x, R x x) (h0 : l[i0]? = some x0)
    (hv : R x0 v) (e : l' = l.set i0 v) : List.Keeps R l l' := by
  intro i x hx
  by_cases hi : i = i0
  · subst hi; rw [h0] at hx; cases hx; exact ⟨v, by simp [e, Desync.lt_of_getElem?_some h0], hv⟩
  · exact ⟨x, by rw [e, List.getElem?_set_ne (Ne.symm hi)]; exact hx, hR x⟩

theorem Option.none_of_imp {α : Type} {o o' : Option α} (h : ∀ x, o' = some x → o = some x) (n : o = none) : o' = none :=
  Option.eq_none_iff_forall_ne_some.mpr fun x e => nomatch n.symm.trans (h x e)
