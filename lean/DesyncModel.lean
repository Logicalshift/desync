import DesyncModel.Types
import DesyncModel.Generated
import DesyncModel.Tables
import DesyncModel.FactFifo
import DesyncModel.FactGuard
import DesyncModel.FactTrySync
import DesyncModel.FactDrop
import DesyncModel.FactUnsafe
import DesyncModel.FactHandBack
import DesyncModel.FactSyncFuture
import DesyncModel.FactPipe
import DesyncModel.Lemmas
import DesyncModel.State
import DesyncModel.Step
import DesyncModel.Setters
import DesyncModel.Model
import DesyncModel.Spec
import DesyncModel.StepRel
import DesyncModel.EnvRel
import DesyncModel.Exec
import DesyncModel.Pipe.Model
import DesyncModel.Pipe.Exec
import DesyncModel.Pipe.StepRel
import DesyncModel.Pipe.Inv
import DesyncModel.Pipe.Reach
import DesyncModel.Inv.Acts
import DesyncModel.Inv.StepFacts
import DesyncModel.Inv.Holder
import DesyncModel.Tables.Moves
import DesyncModel.Inv.QSt
import DesyncModel.Inv.QEffect
import DesyncModel.Inv.HolderReach
import DesyncModel.Inv.Owned
import DesyncModel.Inv.Pend
import DesyncModel.Inv.Park
import DesyncModel.Inv.Pool
import DesyncModel.Inv.Job
import DesyncModel.Inv.JobInv
import DesyncModel.Inv.JobAbs
import DesyncModel.Inv.JobReach
import DesyncModel.Inv.ErasedAbs
import DesyncModel.Inv.Erased
import DesyncModel.Inv.ErasedReach
import DesyncModel.Props.C01
import DesyncModel.Props.C02
import DesyncModel.Props.C03
import DesyncModel.Props.C04
import DesyncModel.Props.C05
import DesyncModel.Props.C06
import DesyncModel.Props.C07
import DesyncModel.Props.C08
import DesyncModel.Props.C09
import DesyncModel.Props.C10
import DesyncModel.Props.C11
import DesyncModel.Props.C12
import DesyncModel.Props.C13
import DesyncModel.Props.C14
import DesyncModel.Props.C15
import DesyncModel.Props.C16
import DesyncModel.Props.C17
import DesyncModel.Inv.Sig
import DesyncModel.Inv.Flag
import DesyncModel.Inv.Run
import DesyncModel.Inv.Drain
import DesyncModel.Inv.Panicked
import DesyncModel.Inv.Slot
import DesyncModel.Inv.PoolAbs
import DesyncModel.Inv.PoolSim
import DesyncModel.Inv.Watch
import DesyncModel.Inv.WatchSched
import DesyncModel.Inv.WatchReach
import DesyncModel.Inv.Cv
import DesyncModel.Inv.CvReach
import DesyncModel.Inv.Res
import DesyncModel.Inv.NoTask
import DesyncModel.Inv.Wake
import DesyncModel.Inv.WakeStep
import DesyncModel.Inv.WakeReach
import DesyncModel.Inv.ThreadStable
import DesyncModel.Inv.WakeT
import DesyncModel.Inv.Latch
import DesyncModel.Inv.Shape
import DesyncModel.Inv.Reg
import DesyncModel.Inv.TaskWaker
import DesyncModel.Inv.StepTables
import DesyncModel.Inv.Kind
import DesyncModel.Inv.DoneWaker
